import Tpp.Model.Parser
/-!
`detail::get_well_known_virtual_key` (src/detail/well_known_virtual_key.cpp) and the delivery loop of
`terminal::async_read` (src/terminal.cpp).

The four function-local tables are transcribed row by row in the order of the source, their entries
referring to the regenerated constants; they are tied completely by the exhaustive key-space sweep.

`argument_to_integer` (the helper that replaced `atoi`, fix F8) on a digit-only string (the parser only ever
stores digits in an argument): `strtoll(s, 0, 10)` saturates at `LLONG_MAX = 2^63-1`, the result is then clamped
to the range of `int`, so the value is `min n (2^31-1)`.  The empty string gives 0.
-/
namespace Tpp

/-- `argument_to_integer` on a digit-only byte string: `strtoll`, clamped to `int` -/
def argToInt (ds : List Byte) : Int := ((min (min (parseDec ds 0) 9223372036854775807) 2147483647 : Nat) : Int)

/-- `std::ranges::find(table, value, &pair::first)` where `value` is an `int` and the keys are bytes -/
def lookupInt {α} (v : Int) : List (Nat × α) → Option α
  | [] => none
  | (k, a) :: rest => if (k : Int) = v then some a else lookupInt v rest

def lookupByte {α} (b : Byte) : List (Byte × α) → Option α
  | [] => none
  | (k, a) :: rest => if k = b then some a else lookupByte b rest

open Consts in
/-- `modifier_mappings` -/
def modifierTable : List (Nat × Nat) :=
  [ (modifier_shift, vkmod_shift),
    (modifier_ctrl, vkmod_ctrl),
    (modifier_alt, vkmod_alt),
    (modifier_meta, vkmod_meta),
    (modifier_shift_alt, vkmod_shift ||| vkmod_alt),
    (modifier_shift_ctrl, vkmod_shift ||| vkmod_ctrl),
    (modifier_alt_ctrl, vkmod_alt ||| vkmod_ctrl),
    (modifier_shift_alt_ctrl, vkmod_shift ||| vkmod_alt ||| vkmod_ctrl),
    (modifier_meta_shift, vkmod_meta ||| vkmod_shift),
    (modifier_meta_ctrl, vkmod_meta ||| vkmod_ctrl),
    (modifier_meta_alt, vkmod_meta ||| vkmod_alt),
    (modifier_meta_shift_alt, vkmod_meta ||| vkmod_shift ||| vkmod_alt),
    (modifier_meta_shift_ctrl, vkmod_meta ||| vkmod_shift ||| vkmod_ctrl),
    (modifier_meta_alt_ctrl, vkmod_meta ||| vkmod_alt ||| vkmod_ctrl),
    (modifier_meta_shift_alt_ctrl, vkmod_meta ||| vkmod_shift ||| vkmod_alt ||| vkmod_ctrl) ]

/-- `convert_modifier_argument` -/
def convertModifier (arg : List Byte) : Nat :=
  (lookupInt (argToInt arg) modifierTable).getD Consts.vkmod_none

open Consts in
/-- `cursor_movement_commands` -/
def cursorTable : List (Byte × Nat) :=
  [ (csi_cursor_up, vk_cursor_up), (csi_cursor_down, vk_cursor_down),
    (csi_cursor_forward, vk_cursor_right), (csi_cursor_backward, vk_cursor_left),
    (csi_cursor_home, vk_home), (csi_cursor_end, vk_end),
    (csi_cursor_tabulation, vk_ht), (csi_cursor_backward_tabulation, vk_bt) ]

open Consts in
/-- `ss3_commands` -/
def ss3Table : List (Byte × Nat) :=
  [ (ss3_cursor_up, vk_cursor_up), (ss3_cursor_down, vk_cursor_down),
    (ss3_cursor_right, vk_cursor_right), (ss3_cursor_left, vk_cursor_left),
    (ss3_cursor_home, vk_home), (ss3_cursor_end, vk_end), (ss3_cursor_tab, vk_ht),
    (ss3_enter, vk_enter), (ss3_f1, vk_f1), (ss3_f2, vk_f2), (ss3_f3, vk_f3), (ss3_f4, vk_f4) ]

open Consts in
/-- `keypad_commands` -/
def keypadTable : List (Nat × Nat) :=
  [ (keypad_home, vk_home), (keypad_insert, vk_ins), (keypad_del, vk_del), (keypad_end, vk_end),
    (keypad_pgup, vk_pgup), (keypad_pgdn, vk_pgdn),
    (keypad_f1, vk_f1), (keypad_f2, vk_f2), (keypad_f3, vk_f3), (keypad_f4, vk_f4), (keypad_f5, vk_f5),
    (keypad_f6, vk_f6), (keypad_f7, vk_f7), (keypad_f8, vk_f8), (keypad_f9, vk_f9), (keypad_f10, vk_f10),
    (keypad_f11, vk_f11), (keypad_f12, vk_f12) ]

/-- `seq.meta ? vk_modifier::meta : vk_modifier::none` -/
def metaMod (c : CtrlSeq) : Nat := if c.metaFlag then Consts.vkmod_meta else Consts.vkmod_none

/-- `(seq.arguments.size() > 1 ? convert_modifier_argument(seq.arguments[1]) : none) | meta` -/
def seqMods (c : CtrlSeq) : Nat :=
  (match c.args with
   | _ :: m :: _ => convertModifier m
   | _ => Consts.vkmod_none) ||| metaMod c

/-- `convert_control_sequence` -/
def convertControlSequence (c : CtrlSeq) : Token :=
  match lookupByte c.command cursorTable with
  | some k =>
    -- `seq.arguments.empty() ? "1" : seq.arguments[0]`
    let repArg : List Byte := match c.args with | [] => [0x31] | a :: _ => a
    .key { key := k, mods := seqMods c, rep := max (argToInt repArg) 1, seq := .ctrl c }
  | none => .ctrl c

/-- `convert_ss3_sequence` -/
def convertSs3Sequence (c : CtrlSeq) : Token :=
  match lookupByte c.command ss3Table with
  | some k => .key { key := k, mods := metaMod c, rep := 1, seq := .ctrl c }
  | none => .ctrl c

/-- `convert_keypad_sequence`.  `seq.arguments[0]` is unguarded in the C++ (undefined for an empty
    argument vector); the model takes the empty argument there and `C07_input_arguments_nonempty`
    shows the decoder never produces such a sequence. -/
def convertKeypadSequence (c : CtrlSeq) : Token :=
  let a0 : List Byte := c.args.headD []
  match a0 with
  | [] => .ctrl c
  | d :: _ =>
    if !isDigit d then .ctrl c else
    match lookupInt (argToInt a0) keypadTable with
    | some k => .key { key := k, mods := seqMods c, rep := 1, seq := .ctrl c }
    | none => .ctrl c

/-- `convert_common_control_sequence` -/
def convertCommon (c : CtrlSeq) : Token :=
  if c.initiator = Consts.control7_csi_1 then
    if c.command = Consts.csi_keypad_function then convertKeypadSequence c else convertControlSequence c
  else if c.initiator = Consts.control7_ss3_1 then convertSs3Sequence c
  else .ctrl c

/-- `get_well_known_virtual_key` -/
def wellKnown : Token → Token
  | .ctrl c => convertCommon c
  | t => t

/-- the tokens a client sees for a byte string (concatenated over callbacks) -/
def tokens (s : PState) (bs : List Byte) : List Token := (rawTokens bs s).map wellKnown

/-- one channel delivery = one `callback(results)`: the new decoder state and the tokens completed -/
def deliver (s : PState) (chunk : List Byte) : PState × List Token := (feedAll chunk s, tokens s chunk)

structure Deliveries where
  state : PState
  tokenLists : List (List Token)     -- one entry per callback invocation, in order
  callbacks : Nat
deriving Repr

/-- a sequence of channel deliveries to a client that re-arms its read from the callback -/
def deliverAll : List (List Byte) → PState → Deliveries
  | [], s => { state := s, tokenLists := [], callbacks := 0 }
  | c :: cs, s =>
    let r := deliverAll cs (deliver s c).1
    { state := r.state, tokenLists := (deliver s c).2 :: r.tokenLists, callbacks := r.callbacks + 1 }

theorem tokens_append (s : PState) (xs ys : List Byte) :
    tokens s (xs ++ ys) = tokens s xs ++ tokens (feedAll xs s) ys := by
  simp [tokens, rawTokens_append]

theorem deliverAll_nil (s : PState) : deliverAll [] s = { state := s, tokenLists := [], callbacks := 0 } := rfl

theorem deliverAll_cons (c : List Byte) (cs : List (List Byte)) (s : PState) :
    deliverAll (c :: cs) s =
      { state := (deliverAll cs (feedAll c s)).state, tokenLists := tokens s c :: (deliverAll cs (feedAll c s)).tokenLists,
        callbacks := (deliverAll cs (feedAll c s)).callbacks + 1 } := rfl

end Tpp
