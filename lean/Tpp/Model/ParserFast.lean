import Tpp.Model.Keys
/-!
An equivalent way of running the decoder model that the compiled driver uses for long inputs.

`PState.feed` appends every digit to the end of `arg` (`s.arg ++ [b]`, faithful to `argument_.push_back`), which is
quadratic on a list.  `runFast` collects a run of digits in reverse and flushes it when the run ends.
`Tpp.runFast_eq` (Lemmas/ParserFast.lean) proves it equal to `(feedAll, rawTokens)`; no property refers to it.
-/
namespace Tpp

def flushDigits (s : PState) (acc : List Byte) : PState := { s with arg := s.arg ++ acc.reverse }

def runFast : List Byte → PState → List Byte → PState × List RawToken
  | [], s, acc => (flushDigits s acc, [])
  | b :: bs, s, acc =>
    if s.ctl = .arguments && isDigit b then runFast bs s (b :: acc)
    else
      let r := (flushDigits s acc).feed b
      let rest := runFast bs r.1 []
      (rest.1, optList r.2 ++ rest.2)

/-- `deliver` through `runFast` -/
def deliverFast (s : PState) (chunk : List Byte) : PState × List Token :=
  let r := runFast chunk s []
  (r.1, r.2.map wellKnown)

/-- the token lists of `deliverAll`, through `deliverFast` -/
def deliverAllFast : List (List Byte) → PState → List (List Token)
  | [], _ => []
  | c :: cs, s => (deliverFast s c).2 :: deliverAllFast cs (deliverFast s c).1

end Tpp
