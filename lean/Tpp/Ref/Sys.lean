import Tpp.Ref.Regions
/-!
The library and the reference terminal run together: every byte the library model emits is fed to
the terminal; a size change is an event that changes both (declared size = actual size).
Also the domain of the output-side properties (`Op.WF`, `Ev.WF`).
-/
namespace Tpp

inductive Ev
  | op (o : Op)
  /-- the terminal is resized (new contents, cursor, saved position and pending flag are the terminal's
      own choice) and the application declares the new size with `set_size` -/
  | resize (w h : Nat) (cells : Bool → Grid) (cx cy : Nat) (saved : Option (Nat × Nat)) (pending : Bool)

def Sys.step (beh : Behaviour) (st : TermState × VT) : Ev → TermState × VT
  | .op o => ((Tpp.step beh st.1 o).1, st.2.feedAll (Tpp.step beh st.1 o).2)
  | .resize w h cells cx cy saved pending =>
    ((Tpp.step beh st.1 (Op.setSize ⟨w, h⟩)).1, st.2.resize w h cells cx cy saved pending)

def Sys.run (beh : Behaviour) (st : TermState × VT) (evs : List Ev) : TermState × VT :=
  evs.foldl (Sys.step beh) st

theorem Sys.run_cons (beh : Behaviour) (st : TermState × VT) (ev : Ev) (evs : List Ev) :
    Sys.run beh st (ev :: evs) = Sys.run beh (Sys.step beh st ev) evs := rfl
theorem Sys.run_nil (beh : Behaviour) (st : TermState × VT) : Sys.run beh st [] = st := rfl
theorem Sys.run_append (beh : Behaviour) (st : TermState × VT) (a b : List Ev) :
    Sys.run beh st (a ++ b) = Sys.run beh (Sys.run beh st a) b := List.foldl_append

/-- domain of the output-side properties, relative to the library state (declared size, rendition known) -/
def Op.WF (s : TermState) : Op → Prop
  | .writeElement e => e.wf = true
  | .writeString es => ∀ e ∈ es, e.wf = true
  | .rawElement e => e.wf = true ∧ s.last.isSome = true   -- the bare manipulator on an unknown rendition is a misuse
  | .moveCursor p => 0 ≤ p.x ∧ p.x < s.size.width ∧ 0 ≤ p.y ∧ p.y < s.size.height
  | .setTitle t => titleClean t = true
  | .setSize _ => False                                   -- size changes are `Ev.resize`
  | .rawWrite _ => False                                  -- raw bytes bypass the encoder: outside these properties
  | _ => True

def Ev.WF (s : TermState) : Ev → Prop
  | .op o => o.WF s
  | .resize _ _ _ _ _ _ _ => True

/-- every event of a history is in the domain at the point where it happens -/
def RunWF (beh : Behaviour) : TermState × VT → List Ev → Prop
  | _, [] => True
  | st, ev :: evs => ev.WF st.1 ∧ RunWF beh (Sys.step beh st ev) evs

/-- "a terminal in an unknown state": anything, except that no control function is in progress,
    G0 is US-ASCII and UTF-8 mode is off (DESIGN §4 decision 2) -/
structure VT.Unknown (vt : VT) : Prop where
  ground : vt.ps = .ground
  ok : vt.malformed = false
  g0 : vt.g0 = .usAscii
  utf8 : vt.utf8 = false

end Tpp
