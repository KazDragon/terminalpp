import Tpp.Lemmas.Step
import Tpp.Lemmas.StringOps
import Tpp.Model.Ctors
/-!
C17 – the plain text of a string is preserved from construction to the wire.
`writeStringSegs` is `terminal << string` with its output cut into segments (`Seg`): before each glyph a control
segment with the SGR / character-set bytes of `elementCtl`, then a payload segment with the glyph's bytes.
-/
namespace Tpp.Props.C17

/-- converting any byte string (all 256 values, embedded NUL) to an attributed string and back -/
theorem C17_roundtrip (bs : List Byte) : TString.toString (TString.ofBytes bs) = bs := by
  induction bs with
  | nil => rfl
  | cons b bs ih => exact congrArg (b :: ·) ih

/-- `to_string` distributes over concatenation (`+`, `+=`) -/
theorem C17_append (a b : List Element) : TString.toString (a ++ b) = TString.toString a ++ TString.toString b :=
  List.flatMap_append

/-- glyphs the property quantifies over: any byte in a single-byte set (unused storage arbitrary); for UTF-8
    zero-padded storage in one of the three lead/continuation shapes of U+0000–U+FFFF (overlong forms and
    surrogates pass); other UTF-8 storage is covered by the correspondence runs only.  Inside this namespace
    `Glyph.Valid` is this `Bool`, not the `Prop` of Ref/Glyphs.lean (same shapes). -/
def Glyph.Valid (g : Glyph) : Bool :=
  if g.cs = .utf8 then
    (g.b0 < 0x80 && g.b1 = 0 && g.b2 = 0) ||
    ((0xC2 ≤ g.b0 && g.b0 ≤ 0xDF) && isCont g.b1 && g.b2 = 0) ||
    ((0xE0 ≤ g.b0 && g.b0 ≤ 0xEF) && isCont g.b1 && isCont g.b2)
  else true

theorem not_ascii {a b : Byte} (ha : 0x80 ≤ a) (h : a ≤ b) : ¬ b < 0x80 ∧ b ≠ 0 :=
  ⟨not_lt_0x80_of_le ha h, ne_zero_of_le (UInt8.le_trans ha h)⟩

/-- for every valid glyph the bytes the terminal writer transmits are exactly the bytes `to_string` yields -/
theorem payload_eq_toString (g : Glyph) (hv : Glyph.Valid g = true) : g.payload = g.toStringBytes := by
  unfold Glyph.Valid at hv
  by_cases hu : g.cs = .utf8
  · simp only [hu, if_true, isCont, Bool.or_eq_true, Bool.and_eq_true, decide_eq_true_eq] at hv
    simp only [Glyph.payload, Glyph.toStringBytes, Glyph.utf8Index_eq, if_pos hu]
    rcases hv with (⟨⟨h0, h1⟩, h2⟩ | ⟨⟨⟨h0, _⟩, h1, _⟩, h2⟩) | ⟨⟨⟨h0, _⟩, h1, _⟩, h2, _⟩
    · simp [h0, h1, h2]
    · simp [not_ascii (by decide) h0, not_ascii (by decide) h1, h2]
    · simp [not_ascii (by decide) h0, not_ascii (by decide) h1, not_ascii (by decide) h2]
  · simp [Glyph.payload, Glyph.toStringBytes, hu]

theorem segs_flatten (beh : Behaviour) (es : List Element) : ∀ s : TermState,
    (rawElementsSegs beh s es).flatMap Seg.bytes = (rawElements beh s es).2 := by
  induction es with
  | nil => intro s; rfl
  | cons e es ih =>
    intro s
    simp only [rawElementsSegs, rawElementSegs, List.flatMap_append, List.flatMap_cons, List.flatMap_nil, Seg.bytes,
      List.append_nil, rawElements, ih, rawElement]

/-- the segments are exactly what `terminal << string` writes -/
theorem writeString_segs (beh : Behaviour) (s : TermState) (es : List Element) :
    (writeStringSegs beh s es).flatMap Seg.bytes = (step beh s (.writeString es)).2 := by
  simp only [writeStringSegs, List.flatMap_cons, Seg.bytes, segs_flatten, step]

/-- **the wire**: the glyph bytes a terminal transmits for an attributed string – every control segment
    (SGR, charset selection) removed – are exactly `to_string` of that string, for ANY byte values
    (NUL, ESC and bytes above 0x7F included), any attributes, any charsets, any prior state -/
theorem C17_wire (beh : Behaviour) (es : List Element) (hv : ∀ e ∈ es, Glyph.Valid e.glyph = true) :
    ∀ s : TermState, (writeStringSegs beh s es).flatMap Seg.payloadBytes = TString.toString es := by
  intro s
  simp only [writeStringSegs, List.flatMap_cons, Seg.payloadBytes, List.nil_append]
  generalize (defaultAttr s).1 = s'
  induction es generalizing s' with
  | nil => rfl
  | cons e es ih =>
    simp only [rawElementsSegs, rawElementSegs, List.flatMap_append, List.flatMap_cons, List.flatMap_nil,
      Seg.payloadBytes, List.append_nil, List.nil_append, TString.toString,
      payload_eq_toString e.glyph (hv e List.mem_cons_self), ih (fun e' he' => hv e' (List.mem_cons_of_mem _ he'))]

/-- for `wf` elements the reference terminal's own view agrees: the bytes it prints (its log) are `to_string` -/
theorem C17_wire_vt (beh : Behaviour) (s : TermState) (vt : VT) (hA : Agree s vt) (es : List Element)
    (hw : ∀ e ∈ es, e.wf = true) :
    ∃ entries, (vt.feedAll (step beh s (.writeString es)).2).log = vt.log ++ entries ∧
      entries.flatMap (·.2.2.bytes) = TString.toString es := by
  obtain ⟨entries, h1, h2⟩ := step_log beh s vt hA (.op (.writeString es)) hw
  refine ⟨entries, h1, ?_⟩
  have h3 : entries.map (fun t => t.2.2.bytes) = es.map (fun e => e.glyph.text) := by
    have := congrArg (List.map Cell.bytes) h2
    rwa [List.map_map, List.map_map] at this
  rw [List.flatMap_def, h3, TString.toString, List.flatMap_def]
  -- the specification's `Glyph.text` is word for word the model's `to_string` of one glyph
  rfl

/-! ### every way of constructing and editing a string (the whole of `class string`) -/

/-- `string(char const*)`: the text up to the terminating NUL, whatever follows it in memory -/
theorem C17_ctor_cstr (bs junk : List Byte) (h : ∀ b ∈ bs, b ≠ 0) :
    TString.toString (TString.ofCStr (bs ++ 0 :: junk)) = bs := by
  rw [TString.ofCStr, List.takeWhile_append_of_pos (by simpa using h), List.takeWhile_cons_of_neg (by simp),
    List.append_nil, C17_roundtrip]

/-- `string(std::string, attribute)`: attributes never drop, add or reorder text – for ANY bytes (embedded NUL
    included) – and every element carries the attribute -/
theorem C17_ctor_attr (bs : List Byte) (a : Attr) :
    TString.toString (TString.withAttr a (TString.ofBytes bs)) = bs
    ∧ (TString.withAttr a (TString.ofBytes bs)).length = bs.length
    ∧ ∀ e ∈ TString.withAttr a (TString.ofBytes bs), e.attr = a := by
  refine ⟨?_, by simp [TString.withAttr, TString.ofBytes], by simp [TString.withAttr]⟩
  rw [TString.toString, TString.withAttr, List.flatMap_map]
  exact C17_roundtrip bs

/-- `string(size, element)`: the element's text, `size` times -/
theorem C17_ctor_fill (n : Nat) (e : Element) :
    TString.toString (List.replicate n e) = (List.replicate n e.glyph.toStringBytes).flatten := by
  simp [TString.toString_eq_flatten]

/-- **text preservation under every program over the class**: run any sequence of constructors, `+=`, `+`,
    `insert`, `erase`, `swap` and `operator[]` assignments on any registers; the plain text of every resulting
    string is what the SAME program yields when run on the sequences of glyph texts.  No operation drops,
    duplicates, reorders or alters text except as the sequence operation itself says; attributes never matter. -/
theorem C17_program_text (ops : List (SeqOp Element)) (g : Regs Element) (r : Nat) :
    TString.toString (SeqOp.run g ops r)
      = (SeqOp.run (g.map fun e => e.glyph.toStringBytes) (ops.map (SeqOp.map fun e => e.glyph.toStringBytes)) r).flatten := by
  rw [TString.toString_eq_flatten, ← SeqOp.run_map]
  rfl

/-- the one-element `insert` and the range `erase` spelled out on the text -/
theorem C17_insert_text (s : List Element) (pos : Nat) (e : Element) :
    TString.toString (s.take pos ++ [e] ++ s.drop pos)
      = TString.toString (s.take pos) ++ e.glyph.toStringBytes ++ TString.toString (s.drop pos) := by
  rw [C17_append, C17_append, show TString.toString [e] = e.glyph.toStringBytes from List.append_nil _]

theorem C17_erase_text (s : List Element) (a b : Nat) :
    TString.toString (s.take a ++ s.drop b) = TString.toString (s.take a) ++ TString.toString (s.drop b) :=
  C17_append _ _

-- non-vacuity: a program on concrete registers using 12 of the 17 operations (all but `setAtRev`, `moveS` and the
-- three observations)
example :
    TString.toString (SeqOp.run (fun _ => []) [
        .set 0 (TString.ofCStr [0x61, 0x62, 0x00, 0x63]), .set 1 (TString.withAttr { intensity := .bold } (TString.ofBytes [0x00, 0xFF])),
        .addS 0 1, .addE 0 { glyph := { b0 := 0xC3, b1 := 0xA9, cs := .utf8 } }, .plusS 2 0 1, .plusE 3 2 {},
        .insE 2 1 { glyph := { b0 := 0x2A } }, .insR 3 0 2 1 3, .eraseRange 0 1 2, .eraseFrom 1 1, .swap 0 1,
        .setAt 3 0 { glyph := { b0 := 0x21 } }, .eraseAll 2] 3)
      = [0x21, 0x62, 0x61, 0x62, 0x00, 0xFF, 0xC3, 0xA9, 0x00, 0xFF, 0x20] := by decide +kernel

/-! ### how text gets into a glyph: the constructors -/

/-- one character U+0001–U+FFFF in one of the three UTF-8 shapes (what a `u8"…"` literal of one character holds) -/
def WellFormed1 : List Byte → Bool
  | [a] => a < 0x80 && a != 0
  | [a, b] => (0xC2 ≤ a && a ≤ 0xDF) && isCont b
  | [a, b, c] => (0xE0 ≤ a && a ≤ 0xEF) && isCont b && isCont c
  | _ => false

/-- the array constructors: the characters of the literal, zero padded -/
theorem C17_glyph_from_array (a b c : Byte) :
    (WellFormed1 [a] = true → Glyph.Valid (Glyph.ofArr1 a) = true ∧ (Glyph.ofArr1 a).toStringBytes = [a]) ∧
    (WellFormed1 [a, b] = true → Glyph.Valid (Glyph.ofArr2 a b) = true ∧ (Glyph.ofArr2 a b).toStringBytes = [a, b]) ∧
    (WellFormed1 [a, b, c] = true → Glyph.Valid (Glyph.ofArr3 a b c) = true ∧ (Glyph.ofArr3 a b c).toStringBytes = [a, b, c]) := by
  refine ⟨fun hw => ?_, fun hw => ?_, fun hw => ?_⟩ <;>
    simp only [WellFormed1, isCont, Bool.and_eq_true, decide_eq_true_eq] at hw
  · simp [Glyph.ofArr1, Glyph.Valid, Glyph.toStringBytes, hw.1]
  · have hb : 0x80 ≤ b := hw.2.1
    simp [Glyph.ofArr2, Glyph.Valid, Glyph.toStringBytes, isCont, hw, (not_ascii (by decide) hb).2]
  · have hb : 0x80 ≤ b := hw.1.2.1
    have hc : 0x80 ≤ c := hw.2.1
    simp [Glyph.ofArr3, Glyph.Valid, Glyph.toStringBytes, isCont, hw, (not_ascii (by decide) hb).2, (not_ascii (by decide) hc).2]

theorem high_facts : ∀ b : UInt8, 0x80 ≤ b → b &&& 0x80 ≠ 0 :=
  fun b h h0 => absurd ((byte_and_0x80 b).mp h0) (UInt8.not_lt.mpr h)

-- `glyph(char const*)` reads one byte below 0x80, or after two bytes with the high bit all three
theorem ofCharPtr_low (a : Byte) (rest : List Byte) (ha : a < 0x80) : Glyph.ofCharPtr (a :: rest) = Glyph.ofArr1 a := by
  simp [Glyph.ofCharPtr, Glyph.ofArr1, (byte_and_0x80 a).mpr ha]

theorem ofCharPtr_high (a b c : Byte) (rest : List Byte) (ha : 0x80 ≤ a) (hb : 0x80 ≤ b) :
    Glyph.ofCharPtr (a :: b :: c :: rest) = Glyph.ofArr3 a b c := by
  simp [Glyph.ofCharPtr, Glyph.ofArr3, high_facts a ha, high_facts b hb]

/-- `glyph(char const*)` on a NUL-terminated string holding exactly one well-formed character (the documented
    use, `glyph(u8"\U00002501")`): a valid zero-padded glyph whose text is that character – whatever follows
    the terminator in memory -/
theorem C17_glyph_from_cstr (enc junk : List Byte) (hw : WellFormed1 enc = true) :
    Glyph.Valid (Glyph.ofCharPtr (enc ++ 0 :: junk)) = true ∧ (Glyph.ofCharPtr (enc ++ 0 :: junk)).toStringBytes = enc := by
  -- the terminator is the zero padding of the array constructors, which take `hw` as it is
  have h := hw
  rcases enc with _ | ⟨a, _ | ⟨b, _ | ⟨c, _ | _⟩⟩⟩ <;>
    simp only [WellFormed1, isCont, Bool.and_eq_true, decide_eq_true_eq, Bool.false_eq_true] at h
  · rw [List.singleton_append, ofCharPtr_low a _ h.1]
    exact (C17_glyph_from_array a 0 0).1 hw
  · rw [show [a, b] ++ 0 :: junk = a :: b :: 0 :: junk from rfl,
      ofCharPtr_high a b 0 junk (UInt8.le_trans (by decide) h.1.1) h.2.1]
    exact (C17_glyph_from_array a b 0).2.1 hw
  · rw [show [a, b, c] ++ 0 :: junk = a :: b :: c :: 0 :: junk from rfl,
      ofCharPtr_high a b c _ (UInt8.le_trans (by decide) h.1.1.1) h.1.2.1]
    exact (C17_glyph_from_array a b c).2.2 hw

/-- outside the documented use the pointer constructor is NOT a one-character reader: handed a pointer into
    longer text it takes the byte after a two-byte character along (`Ď` = C4 8E followed by `S`).  Recorded as a
    precondition of that constructor (one NUL-terminated character), not as a finding: no string operation of
    the library calls it on longer text. -/
theorem C17_glyph_from_cstr_needs_terminator :
    Glyph.Valid (Glyph.ofCharPtr [0xC4, 0x8E, 0x53, 0x00]) = false
    ∧ (Glyph.ofCharPtr [0xC4, 0x8E, 0x53, 0x00]).toStringBytes = [0xC4, 0x8E, 0x53] := by decide +kernel

-- the quantifier domain includes embedded NUL, the UTF-8 glyph U+0000 and bytes above 0x7F
example : Glyph.Valid { b0 := 0, b1 := 0, b2 := 0, cs := .utf8 } = true ∧ Glyph.Valid { b0 := 0, cs := .dec } = true ∧
    Glyph.Valid { b0 := 0xE2, b1 := 0x82, b2 := 0xAC, cs := .utf8 } = true := by decide +kernel
example : TString.toString (TString.ofBytes [0x41, 0x00, 0xFF]) = [0x41, 0x00, 0xFF] := by decide +kernel

end Tpp.Props.C17
