import Tpp.Lemmas.Step
/-!
C13 – state diffing never re-sends what is already in effect.

"Already in effect on the terminal (as left by the previous write or erase)": the library's record names an
element `l` (`s.last = some l`) and, by the agreement invariant (C08), the terminal really has `l`'s
rendition and character set in effect.  Then an element with the same attribute and character set costs
only its glyph bytes; a move to the known position and a repeated visibility request cost nothing.
-/
namespace Tpp.Props.C13

theorem elementCtl_same (beh : Behaviour) (l e : Element) (ha : l.attr = e.attr) (hc : l.glyph.cs = e.glyph.cs) :
    elementCtl beh (some l) e = [] := by
  rw [elementCtl, Option.getD_some, hc, ha, changeCharset_self, changeAttribute_self]; rfl

/-- inside a string: every element after the first that repeats its predecessor's attribute and character set is
    transmitted as its glyph bytes only -/
theorem C13_string_run (beh : Behaviour) (s : TermState) (l e : Element) (hl : s.last = some l)
    (ha : l.attr = e.attr) (hc : l.glyph.cs = e.glyph.cs) :
    (rawElement beh s e).2 = e.glyph.payload := by
  rw [rawElement, hl, elementCtl_same beh l e ha hc]; rfl

theorem writeElement_same (beh : Behaviour) (s : TermState) (l e : Element) (hl : s.last = some l)
    (ha : l.attr = e.attr) (hc : l.glyph.cs = e.glyph.cs) :
    (step beh s (.writeElement e)).2 = e.glyph.payload := by
  rw [step_writeElement, defaultAttr_some hl]
  exact C13_string_run beh s l e hl ha hc

/-- an element whose attribute and character set are those of the element last written is sent as its glyph bytes
    only, and those are what the terminal has in effect -/
theorem C13_element (beh : Behaviour) (s : TermState) (vt : VT) (hA : Agree s vt) (l e : Element)
    (hl : s.last = some l) (ha : l.attr = e.attr) (hc : l.glyph.cs = e.glyph.cs) :
    (step beh s (.writeElement e)).2 = e.glyph.payload ∧
    -- … and "in effect" is a fact about the terminal, not only about the record:
    vt.rend = rendOf e.attr ∧ CharsetAgree e.glyph.cs vt :=
  ⟨writeElement_same beh s l e hl ha hc, ha ▸ hA.1.rend l hl, hc ▸ hA.1.charset_some hl⟩

/-- `move_cursor` to the position the cursor is known to have sends nothing, and the cursor is there -/
theorem C13_move (beh : Behaviour) (s : TermState) (vt : VT) (hA : Agree s vt) (p : Point) (h : s.cursor = some p) :
    (step beh s (.moveCursor p)).2 = [] ∧ (vt.cx = p.x.toNat ∧ vt.cy = p.y.toNat ∧ vt.pending = false) := by
  obtain ⟨_, _, c, d, e, _, _⟩ := hA.2.cursor p h
  exact ⟨by simp [step, moveCursorBytes, h], c.symm, d.symm, e⟩

/-- `hide_cursor` / `show_cursor` repeating the known visibility sends nothing, and the terminal has that visibility -/
theorem C13_visibility (beh : Behaviour) (s : TermState) (vt : VT) (hA : Agree s vt) (b : Bool) (h : s.visible = some b) :
    (step beh s (if b then .showCursor else .hideCursor)).2 = [] ∧ vt.cursorVisible = b := by
  refine ⟨?_, hA.1.visible b h⟩
  cases b <;> simp [step, h]

/-- an erase counts as well: it leaves the default rendition in effect, so default-attribute text afterwards is bare -/
theorem C13_after_erase (beh : Behaviour) (s : TermState) (k : EraseKind) (e : Element) (ha : e.attr = {})
    (hc : ∀ l, s.last = some l → l.glyph.cs = e.glyph.cs) (hn : s.last = none → e.glyph.cs = .usAscii) :
    (step beh (step beh s (.erase k)).1 (.writeElement e)).2 = e.glyph.payload := by
  refine writeElement_same beh _ _ e (erase_last beh s k) ha.symm ?_
  cases hl : s.last with
  | none => exact (hn hl).symm
  | some l => exact hc l hl

/-- **a status query sent through `terminal::write` costs nothing afterwards**: the bytes go out unchanged, the library's
    record is untouched, and it is still true of the terminal (`Agree`) – so the next element in the rendition in effect is
    still just its glyph, the next move to the occupied cell still nothing (the clauses above apply unchanged).  The oracle
    lets exactly these four byte strings through; `Op.WF` and `Op.WFR` exclude every raw write, so this is a statement
    about the one step. -/
theorem C13_status_query (beh : Behaviour) (s : TermState) (vt : VT) (hA : Agree s vt) (q : List Byte) (hq : q ∈ statusQueries) :
    (step beh s (.rawWrite q)).1 = s ∧ (step beh s (.rawWrite q)).2 = q ∧ Agree s (vt.feedAll q) :=
  ⟨rfl, rfl, (feed_statusQuery vt hA.1.ground q hq).symm ▸ hA⟩

-- non-vacuity: a concrete state with everything known
example : (step {} { last := some { attr := { intensity := .bold } }, cursor := some ⟨3, 4⟩, visible := some false }
    (.writeElement { glyph := { b0 := 0x41 }, attr := { intensity := .bold } })).2 = [0x41] := by decide

end Tpp.Props.C13
