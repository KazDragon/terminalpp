import Tpp.Lemmas.Canvas
/-!
C16 – canvas cells are addressed consistently and survive resizing.

`Tpp.Model.Canvas` transcribes `src/canvas.cpp` and `algorithm/for_each_in_region.hpp` loop by loop
(the grid is the `begin()..end()` range; `get`/`set` go through `row * width + column`; `resize`
is the fold of `new_grid[row * new_width + column] = elem` over the region iteration).  The theorems
below relate that transcription to the *statement* of the property: a `w × h` grid of independent
cells addressed by coordinates, a row-major enumeration of a rectangle, and "keep the common part,
default elsewhere" for resizes.  Coordinates and sizes are `Int` (`coordinate_type`), all sizes `≥ 0`
including zero width or height; `w * h < 2³¹` is the standing no-overflow assumption.
-/
namespace Tpp.Props.C16
open Tpp.Lemmas.Canvas

instance (c : Canvas) : Decidable c.WF := by unfold Canvas.WF; infer_instance

/-- A new `w × h` canvas has exactly `w*h` cells, all default; the size invariant is established by
    construction and preserved by cell assignment and by `resize`. -/
theorem C16_cells (w h : Int) (hw : 0 ≤ w) (hh : 0 ≤ h) :
    ((Canvas.new ⟨w, h⟩).grid.length : Int) = w * h ∧
    (Canvas.new ⟨w, h⟩).size = ⟨w, h⟩ ∧
    (∀ x y : Int, (Canvas.new ⟨w, h⟩).get x y = {}) ∧
    (∀ e ∈ (Canvas.new ⟨w, h⟩).grid, e = {}) ∧
    (Canvas.new ⟨w, h⟩).WF ∧
    (∀ (c : Canvas) (x y : Int) (e : Element), c.WF → (c.set x y e).WF ∧ (c.set x y e).size = c.size) ∧
    (∀ (c : Canvas) (s : Extent), 0 ≤ s.width → 0 ≤ s.height → (c.resize s).WF) := by
  have hwf : (Canvas.new ⟨w, h⟩).WF := ⟨hw, hh, List.length_replicate⟩
  exact ⟨wf_length hwf, rfl, fun _ _ => getD_replicate_self _ _ _, fun _ => List.eq_of_mem_replicate, hwf,
    fun c x y e hc => ⟨set_wf hc x y e, set_size c x y e⟩, fun c _ => resize_wf c⟩

def eA : Element := { glyph := { b0 := 0x41 }, attr := { intensity := .bold } }
def eB : Element := { glyph := { b0 := 0x42 }, attr := { fg := .high 100 } }
/-- a 3×2 canvas with two distinct non-default cells, used for the non-vacuity examples -/
def demo : Canvas := ((Canvas.new ⟨3, 2⟩).set 2 1 eA).set 0 1 eB

example : demo.WF ∧ demo.grid.length = 6 ∧ demo.grid = [{}, {}, {}, eB, {}, eA] := by decide +kernel
-- zero width / zero height are inside the quantifier domain
example : (Canvas.new ⟨0, 5⟩).WF ∧ (Canvas.new ⟨5, 0⟩).WF ∧ (Canvas.new ⟨0, 5⟩).grid = [] := by decide +kernel

/-- cell `(x, y)` is the `(y*w + x)`-th element of the `begin()..end()` range -/
theorem C16_index (c : Canvas) (hc : c.WF) (x y : Int)
    (hx0 : 0 ≤ x) (hx : x < c.size.width) (hy0 : 0 ≤ y) (hy : y < c.size.height) :
    ∃ hk : y.toNat * c.size.width.toNat + x.toNat < c.grid.length,
      c.get x y = c.grid[y.toNat * c.size.width.toNat + x.toNat] := by
  have hlt := index_lt hc hx0 hx hy0 hy
  rw [← index_nat hc.1 hx0 hy0]
  exact ⟨hlt, get_eq_getElem hlt⟩

/-- … and every element of the range is a cell: position `k` is cell `(k mod w, k div w)`,
    whose coordinates are in range.  Together with `C16_index_independent` (injectivity) the
    in-range coordinates and the `w*h` grid positions are in bijection. -/
theorem C16_index_onto (c : Canvas) (hc : c.WF) (k : Nat) (hk : k < c.grid.length) :
    let W := c.size.width.toNat
    ((k % W : Nat) : Int) < c.size.width ∧ ((k / W : Nat) : Int) < c.size.height ∧
      c.get ((k % W : Nat) : Int) ((k / W : Nat) : Int) = c.grid[k] := by
  intro W
  obtain ⟨hw, hh, hl⟩ := hc
  have hk' : k < W * c.size.height.toNat := hl ▸ hk
  -- position `k` is the index of column `k mod W`, row `k div W`
  have hidx : c.index ((k % W : Nat) : Int) ((k / W : Nat) : Int) = k := by
    rw [index_nat hw (Int.natCast_nonneg _) (Int.natCast_nonneg _), Int.toNat_natCast, Int.toNat_natCast]
    exact Nat.div_add_mod' k W
  refine ⟨?_, ?_, ?_⟩
  · rw [← Int.toNat_of_nonneg hw]; exact Int.ofNat_lt.mpr (Nat.mod_lt _ (Nat.pos_of_lt_mul_right hk'))
  · rw [← Int.toNat_of_nonneg hh]; exact Int.ofNat_lt.mpr (Nat.div_lt_of_lt_mul hk')
  · rw [get_eq_getElem (by rw [hidx]; exact hk)]
    simp only [hidx]

/-- the cells are independently assignable: writing `(x, y)` changes that cell and no other -/
theorem C16_index_independent (c : Canvas) (hc : c.WF) (x y x' y' : Int) (e : Element)
    (hx0 : 0 ≤ x) (hx : x < c.size.width) (hy0 : 0 ≤ y) (hy : y < c.size.height)
    (hx0' : 0 ≤ x') (hx' : x' < c.size.width) (hy0' : 0 ≤ y') (_hy' : y' < c.size.height) :
    (c.set x y e).get x' y' = if x' = x ∧ y' = y then e else c.get x' y' :=
  get_set hc e hx0 hx hy0 hy hx0' hx' hy0'

example : demo.WF ∧ (0 : Int) ≤ 2 ∧ (2 : Int) < demo.size.width ∧ (1 : Int) < demo.size.height ∧
    demo.get 2 1 = eA ∧ demo.get 0 1 = eB ∧ demo.get 1 1 = {} ∧ demo.grid[1 * 3 + 2]? = some eA ∧
    eA ≠ eB ∧ eA ≠ {} := by decide +kernel

/-- `for_each_in_region` visits exactly the cells of the region, each once, in row-major order
    (rows ascending, columns ascending within a row), for any rectangle; a rectangle with a
    non-positive width or height is visited not at all. -/
theorem C16_region (r : Rectangle) :
    (∀ p : Int × Int, p ∈ regionCoords r ↔
      (r.origin.x ≤ p.1 ∧ p.1 < r.origin.x + r.size.width) ∧
      (r.origin.y ≤ p.2 ∧ p.2 < r.origin.y + r.size.height)) ∧
    (regionCoords r).Nodup ∧
    List.Pairwise (fun p q : Int × Int => p.2 < q.2 ∨ (p.2 = q.2 ∧ p.1 < q.1)) (regionCoords r) :=
  ⟨fun _ => mem_regionCoords, nodup_regionCoords r, pairwise_regionCoords r⟩

/-- equivalently: the visit sequence *is* the explicit row-major enumeration – the `k`-th call
    (`k < w*h`) receives column `ox + k mod w` and row `oy + k div w` -/
theorem C16_region_enum (r : Rectangle) (hw : 0 ≤ r.size.width) (hh : 0 ≤ r.size.height) :
    regionCoords r = (List.range (r.size.width.toNat * r.size.height.toNat)).map fun k =>
      (r.origin.x + ((k % r.size.width.toNat : Nat) : Int), r.origin.y + ((k / r.size.width.toNat : Nat) : Int)) := by
  obtain ⟨⟨ox, oy⟩, ⟨w, h⟩⟩ := r
  obtain ⟨W, rfl⟩ := Int.eq_ofNat_of_zero_le hw
  obtain ⟨H, rfl⟩ := Int.eq_ofNat_of_zero_le hh
  exact regionCoords_eq_range ox oy W H

/-- what the callable receives: `(container[column][row], column, row)` – the coordinates are the
    region enumeration and the element is the one stored at those coordinates; for a region inside
    the canvas that is element `row*w + column` of `begin()..end()`. -/
theorem C16_region_elements (c : Canvas) (r : Rectangle) :
    (c.visits r).map (fun v => (v.2.1, v.2.2)) = regionCoords r ∧
    (∀ v ∈ c.visits r, v.1 = c.get v.2.1 v.2.2) ∧
    (c.WF → 0 ≤ r.origin.x → 0 ≤ r.origin.y → r.origin.x + r.size.width ≤ c.size.width →
      r.origin.y + r.size.height ≤ c.size.height →
      ∀ v ∈ c.visits r, ∃ hk : v.2.2.toNat * c.size.width.toNat + v.2.1.toNat < c.grid.length,
        v.1 = c.grid[v.2.2.toNat * c.size.width.toNat + v.2.1.toNat]) := by
  refine ⟨?_, fun v hv => ?_, fun hc h1 h2 h3 h4 v hv => ?_⟩
  · exact List.map_map.trans (List.map_id _)
  · obtain ⟨p, _, rfl⟩ := List.mem_map.mp hv
    rfl
  · obtain ⟨p, hp, rfl⟩ := List.mem_map.mp hv
    have hm := mem_regionCoords.mp hp
    exact C16_index c hc p.1 p.2 (Int.le_trans h1 hm.1.1) (Int.lt_of_lt_of_le hm.1.2 h3) (Int.le_trans h2 hm.2.1)
      (Int.lt_of_lt_of_le hm.2.2 h4)

example : regionCoords ⟨⟨1, 0⟩, ⟨2, 2⟩⟩ = [(1, 0), (2, 0), (1, 1), (2, 1)] ∧
    demo.visits ⟨⟨1, 0⟩, ⟨2, 2⟩⟩ = [({}, 1, 0), ({}, 2, 0), ({}, 1, 1), (eA, 2, 1)] ∧
    regionCoords ⟨⟨1, 0⟩, ⟨0, 2⟩⟩ = [] := by decide +kernel

/-- **writing through region iteration**: `for_each_in_region` hands its callable a reference to each cell of the
    region; assigning through it (a region fill) changes exactly the cells of the region – each becomes the new
    element, every other cell keeps its own – and neither the size nor the cell count. -/
theorem C16_region_fill (c : Canvas) (hc : c.WF) (r : Rectangle) (e : Element)
    (hox : 0 ≤ r.origin.x) (hoy : 0 ≤ r.origin.y) (hrw : r.origin.x + r.size.width ≤ c.size.width)
    (hrh : r.origin.y + r.size.height ≤ c.size.height) :
    (c.fill r e).size = c.size ∧ (c.fill r e).WF ∧
    ∀ x y : Int, 0 ≤ x → x < c.size.width → 0 ≤ y → y < c.size.height →
      (c.fill r e).get x y = if (x, y) ∈ regionCoords r then e else c.get x y :=
  ⟨fill_size c r e, fill_wf hc r e, fun _ _ => fill_get hc e hox hoy hrw⟩

/-- after `resize(s)`: the reported size is `s`, the grid has `s.w*s.h` cells, every cell inside
    both the old and the new extent keeps its element, every other cell is a default element -/
theorem C16_resize (c : Canvas) (_hc : c.WF) (s : Extent) (hw : 0 ≤ s.width) (hh : 0 ≤ s.height) :
    (c.resize s).size = s ∧ (c.resize s).WF ∧
    ∀ x y : Int, 0 ≤ x → x < s.width → 0 ≤ y → y < s.height →
      (c.resize s).get x y = if x < c.size.width ∧ y < c.size.height then c.get x y else {} :=
  ⟨rfl, resize_wf c hw hh, fun _ _ hx0 hx hy0 hy => resize_get c hx0 hx hy0 hy⟩

example : demo.WF ∧ (demo.resize ⟨2, 3⟩).grid = [{}, {}, eB, {}, {}, {}] ∧
    (demo.resize ⟨4, 2⟩).grid = [{}, {}, {}, {}, eB, {}, eA, {}] ∧ (demo.resize ⟨0, 7⟩).grid = [] := by decide +kernel

/-- all resizes of a history, in order -/
def resizeAll (c : Canvas) (sizes : List Extent) : Canvas := sizes.foldl Canvas.resize c

/-- after any sequence of resizes the size is the last one requested, and a cell of the final
    canvas holds its original element exactly when its coordinates lie inside the original size and
    inside every size of the sequence; otherwise it is a default element (content cut off by an
    intermediate shrink does not come back). -/
theorem C16_resize_chain (c : Canvas) (hc : c.WF) (sizes : List Extent)
    (hs : ∀ s ∈ sizes, 0 ≤ s.width ∧ 0 ≤ s.height) :
    (resizeAll c sizes).size = sizes.getLast?.getD c.size ∧ (resizeAll c sizes).WF ∧
    ∀ x y : Int, 0 ≤ x → x < (resizeAll c sizes).size.width → 0 ≤ y → y < (resizeAll c sizes).size.height →
      (resizeAll c sizes).get x y =
        if (x < c.size.width ∧ y < c.size.height) ∧ ∀ s ∈ sizes, x < s.width ∧ y < s.height
        then c.get x y else {} := by
  induction sizes generalizing c with
  | nil =>
    exact ⟨rfl, hc, fun x y _ hx _ hy => (if_pos ⟨⟨hx, hy⟩, fun _ h => absurd h List.not_mem_nil⟩).symm⟩
  | cons s rest ih =>
    have hs0 := hs s List.mem_cons_self
    obtain ⟨h1, h2, h3⟩ := ih (c.resize s) (resize_wf c hs0.1 hs0.2) fun t ht => hs t (List.mem_cons_of_mem _ ht)
    rw [show resizeAll c (s :: rest) = resizeAll (c.resize s) rest from rfl]
    refine ⟨?_, h2, fun x y hx0 hx hy0 hy => ?_⟩
    · rw [h1, List.getLast?_cons, Option.getD_some]
      rfl
    · rw [h3 x y hx0 hx hy0 hy, resize_size]
      -- inside `s` and every later size, or default: `List.forall_mem_cons` moves `s` between the two conditions
      by_cases h : (x < s.width ∧ y < s.height) ∧ ∀ t ∈ rest, x < t.width ∧ y < t.height
      · rw [if_pos h, resize_get c hx0 h.1.1 hy0 h.1.2]
        exact ite_congr (propext ⟨fun h0 => ⟨h0, List.forall_mem_cons.2 h⟩, And.left⟩) (fun _ => rfl) fun _ => rfl
      · rw [if_neg h, if_neg fun h' => h (List.forall_mem_cons.1 h'.2)]

example : demo.WF ∧ (∀ s ∈ [(⟨4, 1⟩ : Extent), ⟨0, 3⟩, ⟨3, 2⟩], 0 ≤ s.width ∧ 0 ≤ s.height) ∧
    (resizeAll demo [⟨4, 3⟩, ⟨1, 2⟩, ⟨3, 2⟩]).grid = [{}, {}, {}, eB, {}, {}] ∧
    (resizeAll demo [⟨4, 3⟩, ⟨3, 2⟩]) = demo ∧
    (resizeAll demo [⟨4, 1⟩, ⟨0, 3⟩, ⟨3, 2⟩]) = Canvas.new ⟨3, 2⟩ := by decide +kernel

end Tpp.Props.C16
