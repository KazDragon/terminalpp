import Tpp.Lemmas.MarkupDecode
import Tpp.Props.C07Markup
/-!
C10 – attribute markup decodes to exactly the elements it describes.

`Tpp.Markup` is the model of `parse_element` / `encode` / `_ete` (tied to the real code by the exhaustive
state × byte sweep, all `\C`, `\U`, colour values, and random streams); `Tpp.Ref` is the markup language as
documented (spellings, their printed form, what they denote, UTF-8, canonical markup of an element string).

Equality of decoded elements is the library's own (`operator==`: the storage bytes a non-UTF-8 glyph does
not use are not compared).  It appears below in two equivalent forms: `xs.map norm = ys.map norm` and
`stringEq xs ys = true` (`stringEq` is the model of `operator==(string, string)`; `stringEq_iff`).
Structural equality of the model's storage is NOT what holds – the decoder carries the continuation bytes
of a UTF-8 glyph along as unused storage of the following elements (`C10_storage_is_carried`); no
observer in the library (==, <, hash, to_string, the terminal writer) reads those bytes.
-/
namespace Tpp.Props.C10
open Tpp.Markup Tpp.Ref

/-- for every list of spellings – any directives in any order with any redundancy, any designator alias,
    hex digits in either case, glyphs written literally, as `\\`, as `\Cnnn` or as `\Uxxxx` – decoding the
    printed markup yields exactly the denoted element string -/
theorem C10_decode_spelling (sps : List Spelling) :
    (encode (sps.flatMap Spelling.print)).map norm = denoteAll sps :=
  encodeFrom_spellings sps {}

/-- the same, by the library's `operator==` on strings -/
theorem C10_decode_spelling_eq (sps : List Spelling) :
    stringEq (encode (sps.flatMap Spelling.print)) (denoteAll sps) = true := by
  rw [stringEq_iff, C10_decode_spelling, denoteAll, denoteFrom_normal]

/-- `_ete` decodes the first spelling and ignores the rest of the text -/
theorem C10_ete_spelling (sp : Spelling) (rest : List Byte) : norm (ete (sp.print ++ rest)) = denote sp {} :=
  (decode_spelling sp rest {}).2

-- non-vacuity: redundant, overriding directives; alias designator `E` = Danish; lower-case hex; `\C`, `\U`
example :
    let sps : List Spelling :=
      [⟨[.intensity .bold, .intensity .faint, .charset 16, .rgb .fg ⟨10, false⟩ ⟨9, true⟩ ⟨1, true⟩ ⟨7, true⟩ ⟨11, true⟩ ⟨14, false⟩],
        .code 200⟩, ⟨[], .uni ⟨2, true⟩ ⟨6, true⟩ ⟨3, true⟩ ⟨10, true⟩⟩, ⟨[.reset, .grey .bg 23], .lit 0x5C⟩]
    sps.flatMap Spelling.print = (/- \i>\i<\cE\(a917Be\C200\U263A\x\}23\\ -/ ([0x5C, 0x69, 0x3E, 0x5C, 0x69, 0x3C, 0x5C, 0x63, 0x45, 0x5C, 0x28, 0x61, 0x39, 0x31, 0x37, 0x42, 0x65, 0x5C, 0x43, 0x32, 0x30, 0x30, 0x5C, 0x55, 0x32, 0x36, 0x33, 0x41, 0x5C, 0x78, 0x5C, 0x7D, 0x32, 0x33, 0x5C, 0x5C] : List Byte)) ∧
    denoteAll sps =
      [{ glyph := { b0 := 200, cs := .danish }, attr := { fg := .rgb 0xA9 0x17 0xBE, intensity := .faint } },
       { glyph := { b0 := 0xE2, b1 := 0x98, b2 := 0xBA, cs := .utf8 }, attr := { fg := .rgb 0xA9 0x17 0xBE, intensity := .faint } },
       { glyph := { b0 := 0x5C, cs := .usAscii }, attr := { bg := .grey 255 } }] := by
  decide +kernel

/-- structural equality of the storage does not hold: the element after a UTF-8 element keeps the
    continuation bytes as unused storage (invisible to `==`, hash, `to_string` and the terminal) -/
theorem C10_storage_is_carried :
    encode (/- \U263Aa -/ ([0x5C, 0x55, 0x32, 0x36, 0x33, 0x41, 0x61] : List Byte)) ≠ denoteAll [⟨[], .uni ⟨2, true⟩ ⟨6, true⟩ ⟨3, true⟩ ⟨10, true⟩⟩, ⟨[], .lit 0x61⟩] := by
  decide +kernel

/-- decoding the canonical markup of an expressible element string yields that string -/
theorem C10_canonical (es : List Element) (hex : Expressible es) :
    (encode (canonical es)).map norm = es.map norm := by
  unfold canonical
  rw [C10_decode_spelling, denoteAll, spellAll]
  exact denoteFrom_spellFrom es {} rfl hex

/-- … by the library's `operator==` on strings -/
theorem C10_canonical_eq (es : List Element) (hex : Expressible es) :
    stringEq (encode (canonical es)) es = true := by
  rw [stringEq_iff]; exact C10_canonical es hex

-- non-vacuity: an expressible string with a UTF-8 element in the middle (charset re-issued after it),
-- a non-printable byte, a return to default attributes; unused storage of the targets is NOT zero
example :
    let es : List Element :=
      [{ glyph := { b0 := 0x41, b1 := 7, b2 := 9, cs := .uk }, attr := { fg := .high 231, underlining := .underlined } },
       { glyph := { b0 := 0xE2, b1 := 0x98, b2 := 0xBA, cs := .utf8 }, attr := { fg := .high 231, underlining := .underlined } },
       { glyph := { b0 := 0x07, cs := .uk }, attr := {} }]
    Expressible es ∧ canonical es = (/- \cA\u+\<555A\U263A\cA\x\C007 -/ ([0x5C, 0x63, 0x41, 0x5C, 0x75, 0x2B, 0x5C, 0x3C, 0x35, 0x35, 0x35, 0x41, 0x5C, 0x55, 0x32, 0x36, 0x33, 0x41, 0x5C, 0x63, 0x41, 0x5C, 0x78, 0x5C, 0x43, 0x30, 0x30, 0x37] : List Byte)) := by
  refine ⟨?_, by decide +kernel⟩
  intro e he
  simp only [List.mem_cons, List.not_mem_nil, or_false] at he
  rcases he with rfl | rfl | rfl <;> decide +kernel

/-- text without a backslash decodes to itself with default attributes (structurally: storage included) -/
theorem C10_plain (bs : List Byte) (h : (0x5C : Byte) ∉ bs) : encode bs = bs.map plainElement :=
  encodeFrom_plain bs h {} rfl

example : (0x5C : Byte) ∉ ([0x41, 0xFF, 0x00] : List Byte) := by decide +kernel

/-- for all 65 536 values and all 16 letter-case choices: the glyph produced for `\Uxxxx` is the UTF-8
    encoding (RFC 3629) of the value, zero padded to the three storage bytes, in the UTF-8 character set;
    exactly the six characters are consumed -/
theorem C10_utf8 (v : Nat) (h : v < 65536) (u3 u2 u1 u0 : Bool) (rest : List Byte) (prev : Element) :
    let text : List Byte := [0x5C, 0x55, (hexDigit (v / 4096) u3).print, (hexDigit (v / 256) u2).print,
      (hexDigit (v / 16) u1).print, (hexDigit v u0).print]
    (parseElement (text ++ rest) prev).1.glyph =
        { b0 := (utf8 v).getD 0 0, b1 := (utf8 v).getD 1 0, b2 := (utf8 v).getD 2 0, cs := .utf8 } ∧
      (parseElement (text ++ rest) prev).2 = rest := by
  intro text
  have hp : text = (GlyphSp.uni (hexDigit (v / 4096) u3) (hexDigit (v / 256) u2) (hexDigit (v / 16) u1) (hexDigit v u0)).print := rfl
  unfold parseElement
  rw [hp, decode_glyph, storeGlyph, codePointOf_digits v h u3 u2 u1 u0]
  exact ⟨rfl, rfl⟩

example : (ete (/- \U20aC -/ ([0x5C, 0x55, 0x32, 0x30, 0x61, 0x43] : List Byte))).glyph = { b0 := 0xE2, b1 := 0x82, b2 := 0xAC, cs := .utf8 } := by decide +kernel

/-- the reset directive restores all attributes: whatever was decoded before and whatever directives
    precede it in the same element, an element whose last directive is `\x` has the default attribute -/
theorem C10_reset (sps : List Spelling) (ds : List Directive) (g : GlyphSp) :
    ((encode ((sps ++ [(⟨ds ++ [.reset], g⟩ : Spelling)]).flatMap Spelling.print)).getLast?).map (·.attr) = some ({} : Attr) := by
  rw [← List.getLast?_map, observed_snoc (·.attr) norm_attr, List.getLast?_concat, denote, glyph_apply_attr, foldl_reset]

example : ((encode (/- \i>\[1a\u+\xb -/ ([0x5C, 0x69, 0x3E, 0x5C, 0x5B, 0x31, 0x61, 0x5C, 0x75, 0x2B, 0x5C, 0x78, 0x62] : List Byte))).map (·.attr)) = [{ fg := .low 1, intensity := .bold }, {}] := by decide +kernel

/-- directives persist until changed: an element written without any directive has the attributes of the
    element before it (the default attribute at the start of the text) -/
theorem C10_persist (sps : List Spelling) (g : GlyphSp) :
    (encode ((sps ++ [(⟨[], g⟩ : Spelling)]).flatMap Spelling.print)).map (·.attr) =
      (encode (sps.flatMap Spelling.print)).map (·.attr) ++ [((encode (sps.flatMap Spelling.print)).getLast?.getD {}).attr] := by
  rw [observed_snoc (·.attr) norm_attr, denote, glyph_apply_attr]; rfl

/-- … and its character set, except that after a UTF-8 element the character set is US-ASCII again -/
theorem C10_persist_charset (sps : List Spelling) (b : Byte) :
    ((encode ((sps ++ [(⟨[], .lit b⟩ : Spelling)]).flatMap Spelling.print)).getLast?).map (·.glyph.cs) =
      some (startFrom ((encode (sps.flatMap Spelling.print)).getLast?.getD {})).glyph.cs := by
  rw [← List.getLast?_map, observed_snoc (·.glyph.cs) norm_cs, List.getLast?_concat, denote, startFrom_norm]; rfl

example : (encode (/- \cA\p-x\U00e9yz -/ ([0x5C, 0x63, 0x41, 0x5C, 0x70, 0x2D, 0x78, 0x5C, 0x55, 0x30, 0x30, 0x65, 0x39, 0x79, 0x7A] : List Byte))).map (fun e => (e.glyph.cs, e.attr.polarity)) =
    [(.uk, .negative), (.utf8, .negative), (.usAscii, .negative), (.usAscii, .negative)] := by decide +kernel

theorem C10_encode_unfold (b : Byte) (bs : List Byte) (prev : Element) :
    encodeFrom (b :: bs) prev =
      (parseElement (b :: bs) prev).1 :: encodeFrom (parseElement (b :: bs) prev).2 (parseElement (b :: bs) prev).1 :=
  encodeFrom_of_ne_nil _ prev (List.cons_ne_nil b bs)

/-- every `parse_element` call made by `encode` (text non-empty) shortens the text, so the loop runs at
    most `text.length` times; `encode` is the fuel-free loop (`C10_encode_unfold`) -/
theorem C10_encode_terminates (b : Byte) (bs : List Byte) (prev : Element) :
    (parseElement (b :: bs) prev).2.length < (b :: bs).length :=
  Nat.lt_succ_of_le (C07Markup.C07_markup_progress b bs prev)

/-- more fuel than `text.length` never changes the result -/
theorem C10_encode_fuel_irrelevant (n : Nat) (bs : List Byte) (h : bs.length ≤ n) : encodeFuel n bs {} = encode bs :=
  C07Markup.C07_markup_fuel n bs h

-- an unfinished directive at the end of the text is consumed all the same
example : (parseElement ([0x5C, 0x69] : List Byte) {}).2 = [] := by decide +kernel

end Tpp.Props.C10
