import Tpp.Lemmas.OrderInst
import Tpp.Lemmas.Payload
import Tpp.Ref.Glyphs
/-!
C15 – equality, ordering and hashing of the value types agree with each other.

For every value type `T` of the library the three operators `T.eq` (`==`), `T.lt` (`<`), `T.cmp` (`<=>`) of
`Tpp.Model.Order` – transcribed from the headers, defaulted comparisons member by member in declaration order,
`glyph`'s three hand-written operators literally over its 3-byte storage – satisfy

* `EqEquivalence T.eq`           – `==` is reflexive, symmetric, transitive;
* `LtStrictTotal T.eq T.lt`      – `<` is irreflexive, transitive, and exactly one of `a < b`, `a == b`, `b < a` holds;
* `NotLtNotGtIffEq T.eq T.lt`    – "neither is less" coincides with `==`;
* `CmpConsistent T.eq T.lt T.cmp`– `<=>` yields `less`/`equal`/`greater` exactly when `a < b` / `a == b` / `b < a`;
* `HashRespectsEq T.eq T.hashTree` (hashable types) – equal values feed identical sequences to `boost::hash_combine`,
  hence have equal hashes.  (The executor ties `hashTree` to the real `hash_value`.)

All statements are unconditional: they hold for EVERY storage content, including UTF-8 glyphs that are not
well-formed and non-UTF-8 glyphs with arbitrary unused bytes.  Validity is needed only for
`C15_glyph_storage` ("glyphs that print the same bytes in the same character set are equal").

The `example` after each type is its non-vacuity witness: a strictly ordered pair (so `<`, `<=>` and `==` are not
trivial) and an `==` pair.
-/
namespace Tpp.Props.C15

/-- `==` is an equivalence relation -/
def EqEquivalence {α : Type} (eq : α → α → Bool) : Prop :=
  (∀ a, eq a a = true) ∧ (∀ a b, eq a b = true → eq b a = true) ∧
  (∀ a b c, eq a b = true → eq b c = true → eq a c = true)

/-- `<` is a strict total order relative to `==`: irreflexive, transitive, and exactly one of
    `a < b`, `a == b`, `b < a` holds -/
def LtStrictTotal {α : Type} (eq lt : α → α → Bool) : Prop :=
  (∀ a, lt a a = false) ∧ (∀ a b c, lt a b = true → lt b c = true → lt a c = true) ∧
  (∀ a b, (lt a b = true ∧ eq a b = false ∧ lt b a = false) ∨
          (lt a b = false ∧ eq a b = true ∧ lt b a = false) ∨
          (lt a b = false ∧ eq a b = false ∧ lt b a = true))

/-- "neither less" coincides with equality -/
def NotLtNotGtIffEq {α : Type} (eq lt : α → α → Bool) : Prop :=
  ∀ a b, (lt a b = false ∧ lt b a = false) ↔ eq a b = true

/-- `<=>` agrees with `<` and `==` -/
def CmpConsistent {α : Type} (eq lt : α → α → Bool) (cmp : α → α → Ordering) : Prop :=
  ∀ a b, (cmp a b = .lt ↔ lt a b = true) ∧ (cmp a b = .eq ↔ eq a b = true) ∧ (cmp a b = .gt ↔ lt b a = true)

/-- equal values hash the same sequence of values -/
def HashRespectsEq {α : Type} (eq : α → α → Bool) (hashTree : α → HashTree) : Prop :=
  ∀ a b, eq a b = true → hashTree a = hashTree b

/- The laws of a lawful bundle `T.ops = ⟨T.eq, T.lt, T.cmp⟩`, with the operators as parameters so that applying one
   to `T.ops_lawful` matches without unfolding a model operator. -/
section
variable {α : Type} {eq lt : α → α → Bool} {cmp : α → α → Ordering} (h : Cmp.Lawful ⟨eq, lt, cmp⟩)
include h

theorem eq_equivalence : EqEquivalence eq := ⟨h.laws.eq_refl, h.laws.eq_symm, h.laws.eq_trans⟩
theorem lt_strict_total : LtStrictTotal eq lt := ⟨h.laws.lt_irrefl, h.laws.lt_trans, h.laws.trichotomy⟩
theorem not_lt_not_gt_iff_eq : NotLtNotGtIffEq eq lt := h.laws.not_lt_not_gt_iff_eq
theorem cmp_consistent : CmpConsistent eq lt cmp := h.laws.cmp_consistent

end

theorem hash_of_eq_imp {α : Type} {eq : α → α → Bool} (h : ∀ a b, eq a b = true → a = b)
    (hashTree : α → HashTree) : HashRespectsEq eq hashTree :=
  fun a b e => congrArg hashTree (h a b e)

theorem C15_charset_eq_equivalence : EqEquivalence Charset.eq :=
  eq_equivalence Charset.ops_lawful
theorem C15_charset_lt_strict_total : LtStrictTotal Charset.eq Charset.lt :=
  lt_strict_total Charset.ops_lawful
theorem C15_charset_not_lt_not_gt_iff_eq : NotLtNotGtIffEq Charset.eq Charset.lt :=
  not_lt_not_gt_iff_eq Charset.ops_lawful
theorem C15_charset_cmp_consistent : CmpConsistent Charset.eq Charset.lt Charset.cmp :=
  cmp_consistent Charset.ops_lawful
theorem C15_charset_hash : HashRespectsEq Charset.eq Charset.hashTree :=
  hash_of_eq_imp (fun a b => (Charset.eq_iff a b).1) _
example : Charset.lt Charset.dec Charset.utf8 = true ∧
    Charset.cmp Charset.utf8 Charset.dec = .gt ∧
    Charset.eq Charset.dec Charset.utf8 = false ∧
    Charset.eq Charset.uk Charset.uk = true := by decide +kernel

theorem C15_glyph_eq_equivalence : EqEquivalence Glyph.eq :=
  eq_equivalence Glyph.ops_lawful
theorem C15_glyph_lt_strict_total : LtStrictTotal Glyph.eq Glyph.lt :=
  lt_strict_total Glyph.ops_lawful
theorem C15_glyph_not_lt_not_gt_iff_eq : NotLtNotGtIffEq Glyph.eq Glyph.lt :=
  not_lt_not_gt_iff_eq Glyph.ops_lawful
theorem C15_glyph_cmp_consistent : CmpConsistent Glyph.eq Glyph.lt Glyph.cmp :=
  cmp_consistent Glyph.ops_lawful
theorem C15_glyph_hash : HashRespectsEq Glyph.eq Glyph.hashTree :=
  Glyph.hash_of_eq
example : Glyph.lt (⟨0x41, 0, 0, .usAscii⟩ : Glyph) ⟨0x41, 0, 0, .utf8⟩ = true ∧
    Glyph.cmp ⟨0x41, 0, 0, .utf8⟩ (⟨0x41, 0, 0, .usAscii⟩ : Glyph) = .gt ∧
    Glyph.eq (⟨0x41, 0, 0, .usAscii⟩ : Glyph) ⟨0x41, 0, 0, .utf8⟩ = false ∧
    Glyph.eq ⟨0x41, 0x55, 0xFF, .usAscii⟩ ⟨0x41, 0, 0, .usAscii⟩ = true := by decide +kernel

theorem C15_low_colour_eq_equivalence : EqEquivalence LowColour.eq :=
  eq_equivalence LowColour.ops_lawful
theorem C15_low_colour_lt_strict_total : LtStrictTotal LowColour.eq LowColour.lt :=
  lt_strict_total LowColour.ops_lawful
theorem C15_low_colour_not_lt_not_gt_iff_eq : NotLtNotGtIffEq LowColour.eq LowColour.lt :=
  not_lt_not_gt_iff_eq LowColour.ops_lawful
theorem C15_low_colour_cmp_consistent : CmpConsistent LowColour.eq LowColour.lt LowColour.cmp :=
  cmp_consistent LowColour.ops_lawful
-- a colour kind is one alternative of `colour`: on it `Colour.eq` and `Colour.hashTree` are the kind's own, by definition
theorem C15_low_colour_hash : HashRespectsEq LowColour.eq LowColour.hashTree :=
  fun ⟨a⟩ ⟨b⟩ h => hash_of_eq_imp Colour.eq_imp Colour.hashTree (.low a) (.low b) h
example : LowColour.lt (⟨1⟩ : LowColour) ⟨9⟩ = true ∧
    LowColour.cmp ⟨9⟩ (⟨1⟩ : LowColour) = .gt ∧
    LowColour.eq (⟨1⟩ : LowColour) ⟨9⟩ = false ∧
    LowColour.eq ⟨7⟩ ⟨7⟩ = true := by decide +kernel

theorem C15_high_colour_eq_equivalence : EqEquivalence HighColour.eq :=
  eq_equivalence HighColour.ops_lawful
theorem C15_high_colour_lt_strict_total : LtStrictTotal HighColour.eq HighColour.lt :=
  lt_strict_total HighColour.ops_lawful
theorem C15_high_colour_not_lt_not_gt_iff_eq : NotLtNotGtIffEq HighColour.eq HighColour.lt :=
  not_lt_not_gt_iff_eq HighColour.ops_lawful
theorem C15_high_colour_cmp_consistent : CmpConsistent HighColour.eq HighColour.lt HighColour.cmp :=
  cmp_consistent HighColour.ops_lawful
theorem C15_high_colour_hash : HashRespectsEq HighColour.eq HighColour.hashTree :=
  fun ⟨a⟩ ⟨b⟩ h => hash_of_eq_imp Colour.eq_imp Colour.hashTree (.high a) (.high b) h
example : HighColour.lt (⟨16⟩ : HighColour) ⟨231⟩ = true ∧
    HighColour.cmp ⟨231⟩ (⟨16⟩ : HighColour) = .gt ∧
    HighColour.eq (⟨16⟩ : HighColour) ⟨231⟩ = false ∧
    HighColour.eq ⟨100⟩ ⟨100⟩ = true := by decide +kernel

theorem C15_greyscale_colour_eq_equivalence : EqEquivalence GreyscaleColour.eq :=
  eq_equivalence GreyscaleColour.ops_lawful
theorem C15_greyscale_colour_lt_strict_total : LtStrictTotal GreyscaleColour.eq GreyscaleColour.lt :=
  lt_strict_total GreyscaleColour.ops_lawful
theorem C15_greyscale_colour_not_lt_not_gt_iff_eq : NotLtNotGtIffEq GreyscaleColour.eq GreyscaleColour.lt :=
  not_lt_not_gt_iff_eq GreyscaleColour.ops_lawful
theorem C15_greyscale_colour_cmp_consistent : CmpConsistent GreyscaleColour.eq GreyscaleColour.lt GreyscaleColour.cmp :=
  cmp_consistent GreyscaleColour.ops_lawful
theorem C15_greyscale_colour_hash : HashRespectsEq GreyscaleColour.eq GreyscaleColour.hashTree :=
  fun ⟨a⟩ ⟨b⟩ h => hash_of_eq_imp Colour.eq_imp Colour.hashTree (.grey a) (.grey b) h
example : GreyscaleColour.lt (⟨232⟩ : GreyscaleColour) ⟨255⟩ = true ∧
    GreyscaleColour.cmp ⟨255⟩ (⟨232⟩ : GreyscaleColour) = .gt ∧
    GreyscaleColour.eq (⟨232⟩ : GreyscaleColour) ⟨255⟩ = false ∧
    GreyscaleColour.eq ⟨240⟩ ⟨240⟩ = true := by decide +kernel

theorem C15_true_colour_eq_equivalence : EqEquivalence TrueColour.eq :=
  eq_equivalence TrueColour.ops_lawful
theorem C15_true_colour_lt_strict_total : LtStrictTotal TrueColour.eq TrueColour.lt :=
  lt_strict_total TrueColour.ops_lawful
theorem C15_true_colour_not_lt_not_gt_iff_eq : NotLtNotGtIffEq TrueColour.eq TrueColour.lt :=
  not_lt_not_gt_iff_eq TrueColour.ops_lawful
theorem C15_true_colour_cmp_consistent : CmpConsistent TrueColour.eq TrueColour.lt TrueColour.cmp :=
  cmp_consistent TrueColour.ops_lawful
theorem C15_true_colour_hash : HashRespectsEq TrueColour.eq TrueColour.hashTree :=
  fun ⟨r, g, b⟩ ⟨r', g', b'⟩ h => hash_of_eq_imp Colour.eq_imp Colour.hashTree (.rgb r g b) (.rgb r' g' b') h
example : TrueColour.lt (⟨1, 255, 255⟩ : TrueColour) ⟨2, 0, 0⟩ = true ∧
    TrueColour.cmp ⟨2, 0, 0⟩ (⟨1, 255, 255⟩ : TrueColour) = .gt ∧
    TrueColour.eq (⟨1, 255, 255⟩ : TrueColour) ⟨2, 0, 0⟩ = false ∧
    TrueColour.eq ⟨1, 2, 3⟩ ⟨1, 2, 3⟩ = true := by decide +kernel

theorem C15_colour_eq_equivalence : EqEquivalence Colour.eq :=
  eq_equivalence Colour.ops_lawful
theorem C15_colour_lt_strict_total : LtStrictTotal Colour.eq Colour.lt :=
  lt_strict_total Colour.ops_lawful
theorem C15_colour_not_lt_not_gt_iff_eq : NotLtNotGtIffEq Colour.eq Colour.lt :=
  not_lt_not_gt_iff_eq Colour.ops_lawful
theorem C15_colour_cmp_consistent : CmpConsistent Colour.eq Colour.lt Colour.cmp :=
  cmp_consistent Colour.ops_lawful
theorem C15_colour_hash : HashRespectsEq Colour.eq Colour.hashTree :=
  hash_of_eq_imp Colour.eq_imp _
example : Colour.lt (Colour.low 9) (Colour.high 1) = true ∧
    Colour.cmp (Colour.high 1) (Colour.low 9) = .gt ∧
    Colour.eq (Colour.low 9) (Colour.high 1) = false ∧
    Colour.eq (Colour.rgb 1 2 3) (Colour.rgb 1 2 3) = true := by decide +kernel

theorem C15_intensity_eq_equivalence : EqEquivalence Intensity.eq :=
  eq_equivalence Intensity.ops_lawful
theorem C15_intensity_lt_strict_total : LtStrictTotal Intensity.eq Intensity.lt :=
  lt_strict_total Intensity.ops_lawful
theorem C15_intensity_not_lt_not_gt_iff_eq : NotLtNotGtIffEq Intensity.eq Intensity.lt :=
  not_lt_not_gt_iff_eq Intensity.ops_lawful
theorem C15_intensity_cmp_consistent : CmpConsistent Intensity.eq Intensity.lt Intensity.cmp :=
  cmp_consistent Intensity.ops_lawful
theorem C15_intensity_hash : HashRespectsEq Intensity.eq Intensity.hashTree :=
  hash_of_eq_imp Intensity.eq_imp _
example : Intensity.lt Intensity.bold Intensity.normal = true ∧
    Intensity.cmp Intensity.normal Intensity.bold = .gt ∧
    Intensity.eq Intensity.bold Intensity.normal = false ∧
    Intensity.eq Intensity.faint Intensity.faint = true := by decide +kernel

theorem C15_underlining_eq_equivalence : EqEquivalence Underlining.eq :=
  eq_equivalence Underlining.ops_lawful
theorem C15_underlining_lt_strict_total : LtStrictTotal Underlining.eq Underlining.lt :=
  lt_strict_total Underlining.ops_lawful
theorem C15_underlining_not_lt_not_gt_iff_eq : NotLtNotGtIffEq Underlining.eq Underlining.lt :=
  not_lt_not_gt_iff_eq Underlining.ops_lawful
theorem C15_underlining_cmp_consistent : CmpConsistent Underlining.eq Underlining.lt Underlining.cmp :=
  cmp_consistent Underlining.ops_lawful
theorem C15_underlining_hash : HashRespectsEq Underlining.eq Underlining.hashTree :=
  hash_of_eq_imp Underlining.eq_imp _
example : Underlining.lt Underlining.underlined Underlining.notUnderlined = true ∧
    Underlining.cmp Underlining.notUnderlined Underlining.underlined = .gt ∧
    Underlining.eq Underlining.underlined Underlining.notUnderlined = false ∧
    Underlining.eq Underlining.underlined Underlining.underlined = true := by decide +kernel

theorem C15_polarity_eq_equivalence : EqEquivalence Polarity.eq :=
  eq_equivalence Polarity.ops_lawful
theorem C15_polarity_lt_strict_total : LtStrictTotal Polarity.eq Polarity.lt :=
  lt_strict_total Polarity.ops_lawful
theorem C15_polarity_not_lt_not_gt_iff_eq : NotLtNotGtIffEq Polarity.eq Polarity.lt :=
  not_lt_not_gt_iff_eq Polarity.ops_lawful
theorem C15_polarity_cmp_consistent : CmpConsistent Polarity.eq Polarity.lt Polarity.cmp :=
  cmp_consistent Polarity.ops_lawful
theorem C15_polarity_hash : HashRespectsEq Polarity.eq Polarity.hashTree :=
  hash_of_eq_imp Polarity.eq_imp _
example : Polarity.lt Polarity.negative Polarity.positive = true ∧
    Polarity.cmp Polarity.positive Polarity.negative = .gt ∧
    Polarity.eq Polarity.negative Polarity.positive = false ∧
    Polarity.eq Polarity.negative Polarity.negative = true := by decide +kernel

theorem C15_blinking_eq_equivalence : EqEquivalence Blinking.eq :=
  eq_equivalence Blinking.ops_lawful
theorem C15_blinking_lt_strict_total : LtStrictTotal Blinking.eq Blinking.lt :=
  lt_strict_total Blinking.ops_lawful
theorem C15_blinking_not_lt_not_gt_iff_eq : NotLtNotGtIffEq Blinking.eq Blinking.lt :=
  not_lt_not_gt_iff_eq Blinking.ops_lawful
theorem C15_blinking_cmp_consistent : CmpConsistent Blinking.eq Blinking.lt Blinking.cmp :=
  cmp_consistent Blinking.ops_lawful
theorem C15_blinking_hash : HashRespectsEq Blinking.eq Blinking.hashTree :=
  hash_of_eq_imp Blinking.eq_imp _
example : Blinking.lt Blinking.blink Blinking.steady = true ∧
    Blinking.cmp Blinking.steady Blinking.blink = .gt ∧
    Blinking.eq Blinking.blink Blinking.steady = false ∧
    Blinking.eq Blinking.blink Blinking.blink = true := by decide +kernel

theorem C15_attribute_eq_equivalence : EqEquivalence Attr.eq :=
  eq_equivalence Attr.ops_lawful
theorem C15_attribute_lt_strict_total : LtStrictTotal Attr.eq Attr.lt :=
  lt_strict_total Attr.ops_lawful
theorem C15_attribute_not_lt_not_gt_iff_eq : NotLtNotGtIffEq Attr.eq Attr.lt :=
  not_lt_not_gt_iff_eq Attr.ops_lawful
theorem C15_attribute_cmp_consistent : CmpConsistent Attr.eq Attr.lt Attr.cmp :=
  cmp_consistent Attr.ops_lawful
theorem C15_attribute_hash : HashRespectsEq Attr.eq Attr.hashTree :=
  hash_of_eq_imp Attr.eq_imp _
example : Attr.lt ({ fg := .low 1, blinking := .steady } : Attr) { fg := .low 1, blinking := .blink, bg := .high 20 } = true ∧
    Attr.cmp { fg := .low 1, blinking := .blink, bg := .high 20 } ({ fg := .low 1, blinking := .steady } : Attr) = .gt ∧
    Attr.eq ({ fg := .low 1, blinking := .steady } : Attr) { fg := .low 1, blinking := .blink, bg := .high 20 } = false ∧
    Attr.eq { polarity := .negative } { polarity := .negative } = true := by decide +kernel

theorem C15_element_eq_equivalence : EqEquivalence Element.eq :=
  eq_equivalence Element.ops_lawful
theorem C15_element_lt_strict_total : LtStrictTotal Element.eq Element.lt :=
  lt_strict_total Element.ops_lawful
theorem C15_element_not_lt_not_gt_iff_eq : NotLtNotGtIffEq Element.eq Element.lt :=
  not_lt_not_gt_iff_eq Element.ops_lawful
theorem C15_element_cmp_consistent : CmpConsistent Element.eq Element.lt Element.cmp :=
  cmp_consistent Element.ops_lawful
theorem C15_element_hash : HashRespectsEq Element.eq Element.hashTree :=
  Element.hash_of_eq
example : Element.lt ({ glyph := ⟨0x41, 0, 0, .usAscii⟩, attr := { fg := .low 2 } } : Element) { glyph := ⟨0x41, 0, 0, .utf8⟩ } = true ∧
    Element.cmp { glyph := ⟨0x41, 0, 0, .utf8⟩ } ({ glyph := ⟨0x41, 0, 0, .usAscii⟩, attr := { fg := .low 2 } } : Element) = .gt ∧
    Element.eq ({ glyph := ⟨0x41, 0, 0, .usAscii⟩, attr := { fg := .low 2 } } : Element) { glyph := ⟨0x41, 0, 0, .utf8⟩ } = false ∧
    Element.eq { glyph := ⟨0x41, 0x55, 0xFF, .usAscii⟩ } { glyph := ⟨0x41, 0, 0, .usAscii⟩ } = true := by decide +kernel

theorem C15_string_eq_equivalence : EqEquivalence TString.eq :=
  eq_equivalence TString.ops_lawful
theorem C15_string_lt_strict_total : LtStrictTotal TString.eq TString.lt :=
  lt_strict_total TString.ops_lawful
theorem C15_string_not_lt_not_gt_iff_eq : NotLtNotGtIffEq TString.eq TString.lt :=
  not_lt_not_gt_iff_eq TString.ops_lawful
theorem C15_string_cmp_consistent : CmpConsistent TString.eq TString.lt TString.cmp :=
  cmp_consistent TString.ops_lawful
theorem C15_string_hash : HashRespectsEq TString.eq TString.hashTree :=
  TString.hash_of_eq
example : TString.lt ([{ glyph := ⟨0x41, 0, 0, .usAscii⟩ }] : TString) [{ glyph := ⟨0x41, 0, 0, .usAscii⟩ }, {}] = true ∧
    TString.cmp [{ glyph := ⟨0x41, 0, 0, .usAscii⟩ }, {}] ([{ glyph := ⟨0x41, 0, 0, .usAscii⟩ }] : TString) = .gt ∧
    TString.eq ([{ glyph := ⟨0x41, 0, 0, .usAscii⟩ }] : TString) [{ glyph := ⟨0x41, 0, 0, .usAscii⟩ }, {}] = false ∧
    TString.eq [{ glyph := ⟨0x41, 7, 9, .usAscii⟩ }] [{ glyph := ⟨0x41, 0, 0, .usAscii⟩ }] = true := by decide +kernel

theorem C15_point_eq_equivalence : EqEquivalence Point.eq :=
  eq_equivalence Point.ops_lawful
theorem C15_point_lt_strict_total : LtStrictTotal Point.eq Point.lt :=
  lt_strict_total Point.ops_lawful
theorem C15_point_not_lt_not_gt_iff_eq : NotLtNotGtIffEq Point.eq Point.lt :=
  not_lt_not_gt_iff_eq Point.ops_lawful
theorem C15_point_cmp_consistent : CmpConsistent Point.eq Point.lt Point.cmp :=
  cmp_consistent Point.ops_lawful
example : Point.lt (⟨9, 1⟩ : Point) ⟨0, 2⟩ = true ∧
    Point.cmp ⟨0, 2⟩ (⟨9, 1⟩ : Point) = .gt ∧
    Point.eq (⟨9, 1⟩ : Point) ⟨0, 2⟩ = false ∧
    Point.eq ⟨3, 4⟩ ⟨3, 4⟩ = true := by decide +kernel

theorem C15_extent_eq_equivalence : EqEquivalence Extent.eq :=
  eq_equivalence Extent.ops_lawful
theorem C15_extent_lt_strict_total : LtStrictTotal Extent.eq Extent.lt :=
  lt_strict_total Extent.ops_lawful
theorem C15_extent_not_lt_not_gt_iff_eq : NotLtNotGtIffEq Extent.eq Extent.lt :=
  not_lt_not_gt_iff_eq Extent.ops_lawful
theorem C15_extent_cmp_consistent : CmpConsistent Extent.eq Extent.lt Extent.cmp :=
  cmp_consistent Extent.ops_lawful
example : Extent.lt (⟨1, 9⟩ : Extent) ⟨2, 0⟩ = true ∧
    Extent.cmp ⟨2, 0⟩ (⟨1, 9⟩ : Extent) = .gt ∧
    Extent.eq (⟨1, 9⟩ : Extent) ⟨2, 0⟩ = false ∧
    Extent.eq ⟨3, 4⟩ ⟨3, 4⟩ = true := by decide +kernel

theorem C15_rectangle_eq_equivalence : EqEquivalence Rectangle.eq :=
  eq_equivalence Rectangle.ops_lawful
theorem C15_rectangle_lt_strict_total : LtStrictTotal Rectangle.eq Rectangle.lt :=
  lt_strict_total Rectangle.ops_lawful
theorem C15_rectangle_not_lt_not_gt_iff_eq : NotLtNotGtIffEq Rectangle.eq Rectangle.lt :=
  not_lt_not_gt_iff_eq Rectangle.ops_lawful
theorem C15_rectangle_cmp_consistent : CmpConsistent Rectangle.eq Rectangle.lt Rectangle.cmp :=
  cmp_consistent Rectangle.ops_lawful
example : Rectangle.lt (⟨⟨9, 1⟩, ⟨5, 5⟩⟩ : Rectangle) ⟨⟨0, 2⟩, ⟨0, 0⟩⟩ = true ∧
    Rectangle.cmp ⟨⟨0, 2⟩, ⟨0, 0⟩⟩ (⟨⟨9, 1⟩, ⟨5, 5⟩⟩ : Rectangle) = .gt ∧
    Rectangle.eq (⟨⟨9, 1⟩, ⟨5, 5⟩⟩ : Rectangle) ⟨⟨0, 2⟩, ⟨0, 0⟩⟩ = false ∧
    Rectangle.eq ⟨⟨1, 2⟩, ⟨3, 4⟩⟩ ⟨⟨1, 2⟩, ⟨3, 4⟩⟩ = true := by decide +kernel

theorem C15_control_sequence_eq_equivalence : EqEquivalence ControlSequence.eq :=
  eq_equivalence ControlSequence.ops_lawful
theorem C15_control_sequence_lt_strict_total : LtStrictTotal ControlSequence.eq ControlSequence.lt :=
  lt_strict_total ControlSequence.ops_lawful
theorem C15_control_sequence_not_lt_not_gt_iff_eq : NotLtNotGtIffEq ControlSequence.eq ControlSequence.lt :=
  not_lt_not_gt_iff_eq ControlSequence.ops_lawful
theorem C15_control_sequence_cmp_consistent : CmpConsistent ControlSequence.eq ControlSequence.lt ControlSequence.cmp :=
  cmp_consistent ControlSequence.ops_lawful
example : ControlSequence.lt ({ initiator := 0x5B, command := 0x41, arguments := [[0x31]] } : ControlSequence) { initiator := 0x5B, command := 0x41, arguments := [[0x31], []] } = true ∧
    ControlSequence.cmp { initiator := 0x5B, command := 0x41, arguments := [[0x31], []] } ({ initiator := 0x5B, command := 0x41, arguments := [[0x31]] } : ControlSequence) = .gt ∧
    ControlSequence.eq ({ initiator := 0x5B, command := 0x41, arguments := [[0x31]] } : ControlSequence) { initiator := 0x5B, command := 0x41, arguments := [[0x31], []] } = false ∧
    ControlSequence.eq { initiator := 0x5B, command := 0x7E, «meta» := true, arguments := [[0x31, 0x35]], extender := 0x3F } { initiator := 0x5B, command := 0x7E, «meta» := true, arguments := [[0x31, 0x35]], extender := 0x3F } = true := by decide +kernel

theorem C15_key_sequence_eq_equivalence : EqEquivalence KeySequence.eq :=
  eq_equivalence KeySequence.ops_lawful
theorem C15_key_sequence_lt_strict_total : LtStrictTotal KeySequence.eq KeySequence.lt :=
  lt_strict_total KeySequence.ops_lawful
theorem C15_key_sequence_not_lt_not_gt_iff_eq : NotLtNotGtIffEq KeySequence.eq KeySequence.lt :=
  not_lt_not_gt_iff_eq KeySequence.ops_lawful
theorem C15_key_sequence_cmp_consistent : CmpConsistent KeySequence.eq KeySequence.lt KeySequence.cmp :=
  cmp_consistent KeySequence.ops_lawful
example : KeySequence.lt (KeySequence.raw 0xFF) (KeySequence.control {}) = true ∧
    KeySequence.cmp (KeySequence.control {}) (KeySequence.raw 0xFF) = .gt ∧
    KeySequence.eq (KeySequence.raw 0xFF) (KeySequence.control {}) = false ∧
    KeySequence.eq (KeySequence.control { command := 0x41 }) (KeySequence.control { command := 0x41 }) = true := by decide +kernel

theorem C15_virtual_key_eq_equivalence : EqEquivalence VirtualKey.eq :=
  eq_equivalence VirtualKey.ops_lawful
theorem C15_virtual_key_lt_strict_total : LtStrictTotal VirtualKey.eq VirtualKey.lt :=
  lt_strict_total VirtualKey.ops_lawful
theorem C15_virtual_key_not_lt_not_gt_iff_eq : NotLtNotGtIffEq VirtualKey.eq VirtualKey.lt :=
  not_lt_not_gt_iff_eq VirtualKey.ops_lawful
theorem C15_virtual_key_cmp_consistent : CmpConsistent VirtualKey.eq VirtualKey.lt VirtualKey.cmp :=
  cmp_consistent VirtualKey.ops_lawful
example : VirtualKey.lt ({ key := 0x41, sequence := .raw 0x41 } : VirtualKey) { key := 0x41, sequence := .control {} } = true ∧
    VirtualKey.cmp { key := 0x41, sequence := .control {} } ({ key := 0x41, sequence := .raw 0x41 } : VirtualKey) = .gt ∧
    VirtualKey.eq ({ key := 0x41, sequence := .raw 0x41 } : VirtualKey) { key := 0x41, sequence := .control {} } = false ∧
    VirtualKey.eq { key := 0x80, modifiers := 1, repeatCount := -1, sequence := .control { initiator := 0x5B, command := 0x41 } } { key := 0x80, modifiers := 1, repeatCount := -1, sequence := .control { initiator := 0x5B, command := 0x41 } } = true := by decide +kernel

theorem C15_mouse_event_eq_equivalence : EqEquivalence MouseEvent.eq :=
  eq_equivalence MouseEvent.ops_lawful
theorem C15_mouse_event_lt_strict_total : LtStrictTotal MouseEvent.eq MouseEvent.lt :=
  lt_strict_total MouseEvent.ops_lawful
theorem C15_mouse_event_not_lt_not_gt_iff_eq : NotLtNotGtIffEq MouseEvent.eq MouseEvent.lt :=
  not_lt_not_gt_iff_eq MouseEvent.ops_lawful
theorem C15_mouse_event_cmp_consistent : CmpConsistent MouseEvent.eq MouseEvent.lt MouseEvent.cmp :=
  cmp_consistent MouseEvent.ops_lawful
example : MouseEvent.lt ({ action := 0, position := ⟨9, 9⟩ } : MouseEvent) { action := 3, position := ⟨0, 0⟩ } = true ∧
    MouseEvent.cmp { action := 3, position := ⟨0, 0⟩ } ({ action := 0, position := ⟨9, 9⟩ } : MouseEvent) = .gt ∧
    MouseEvent.eq ({ action := 0, position := ⟨9, 9⟩ } : MouseEvent) { action := 3, position := ⟨0, 0⟩ } = false ∧
    MouseEvent.eq { action := 1, position := ⟨2, 3⟩ } { action := 1, position := ⟨2, 3⟩ } = true := by decide +kernel

/-- storage and wire bytes from one split: in each of the three shapes of `Valid` the lead byte fixes the length -/
theorem valid_utf8 (g : Glyph) (hv : g.Valid) (hu : g.cs = .utf8) :
    [g.b0, g.b1, g.b2] = (g.printed ++ [0, 0]).take 3 ∧ g.payload = g.printed := by
  simp only [Glyph.payload, Glyph.printed, Glyph.utf8Index_eq, if_pos hu]
  rcases hv hu with ⟨h0, h1, h2⟩ | ⟨h0, h0', ⟨h1, _⟩, h2⟩ | ⟨h0, _, ⟨h1, _⟩, ⟨h2, _⟩⟩
  · simp [h0, h1, h2]
  · simp [not_lt_0x80_of_le (by decide) h0, not_lt_0x80_of_le (by decide) h1, h0', h2]
  · have : ¬ g.b0 ≤ 0xDF := UInt8.not_le.2 (UInt8.lt_of_lt_of_le (by decide) h0)
    simp [not_lt_0x80_of_le (by decide) h0, not_lt_0x80_of_le (by decide) h1, not_lt_0x80_of_le (by decide) h2, this]

theorem valid_used (g : Glyph) (hv : g.Valid) :
    g.used = if g.cs = .utf8 then (g.printed ++ [0, 0]).take 3 else g.printed := by
  by_cases hu : g.cs = .utf8
  · rw [if_pos hu, Glyph.used_utf8 hu]; exact (valid_utf8 g hv hu).1
  · rw [if_neg hu, Glyph.used_single hu, Glyph.printed, if_neg hu]

/-- for a valid glyph the model's wire payload (`write_single_element`) is what the glyph denotes -/
theorem C15_valid_payload (g : Glyph) (hv : g.Valid) : g.payload = g.printed := by
  by_cases hu : g.cs = .utf8
  · exact (valid_utf8 g hv hu).2
  · simp only [Glyph.payload, Glyph.printed, if_neg hu]

/-- Two valid glyphs that put the same bytes on the wire in the same character set compare equal, however
    their storage was filled (the unused bytes of a non-UTF-8 glyph are arbitrary). -/
theorem C15_glyph_storage (g1 g2 : Glyph) (h1 : g1.Valid) (h2 : g2.Valid)
    (hp : g1.payload = g2.payload) (hc : g1.cs = g2.cs) : Glyph.eq g1 g2 = true := by
  rw [C15_valid_payload g1 h1, C15_valid_payload g2 h2] at hp
  exact (Glyph.eq_iff_key g1 g2).2 (Prod.ext hc (by
    show g1.used = g2.used
    rw [valid_used g1 h1, valid_used g2 h2, hp, hc]))

-- non-vacuity: valid glyphs with different storage, same payload, same set (and the conclusion is not `rfl`)
example : let g1 : Glyph := ⟨0x41, 0x55, 0xFF, .dec⟩; let g2 : Glyph := ⟨0x41, 0, 0, .dec⟩
    g1.Valid ∧ g2.Valid ∧ g1.payload = g2.payload ∧ g1.cs = g2.cs ∧ g1 ≠ g2 ∧ Glyph.eq g1 g2 = true := by decide +kernel
example : let g : Glyph := ⟨0xE2, 0x94, 0x81, .utf8⟩; g.Valid ∧
    g.payload = [0xE2, 0x94, 0x81] := by decide +kernel
example : let g : Glyph := ⟨0xC2, 0xA3, 0, .utf8⟩; g.Valid ∧ g.payload = [0xC2, 0xA3] := by decide +kernel

/-- The statement WITHOUT the validity hypothesis … -/
def C15_glyph_storage_unrestricted : Prop :=
  ∀ g1 g2 : Glyph, g1.payload = g2.payload → g1.cs = g2.cs → Glyph.eq g1 g2 = true

/-- … is false of the code as written: `glyph(u8"AU")` stores `41 55 00` under UTF-8, prints `41` only
    (the writer stops at the first byte without the high bit), and is `!=` `glyph(u8"A")`.
    Such storage is not the encoding of one code point, i.e. outside `Glyph.Valid` (replayed on the real
    operators by the correspondence sweeps `gl-lattice-pairs` / `gl-lattice-triples`). -/
theorem C15_glyph_storage_needs_valid : ¬ C15_glyph_storage_unrestricted := by
  intro h
  have := h ⟨0x41, 0x55, 0, .utf8⟩ ⟨0x41, 0, 0, .utf8⟩ (by decide +kernel) rfl
  revert this; decide +kernel

end Tpp.Props.C15
