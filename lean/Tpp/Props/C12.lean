import Tpp.Model.Interleave
import Tpp.Model.Terminal
import Tpp.Generated.Statics
/-!
C12 – separate terminals, screens and strings do not interfere, even across threads.

Model level: for ANY family of objects whose steps touch only their own state, any interleaving of their
operation scripts produces for each object exactly the outputs (and the final state) of its solo run.
The library model has that shape by construction (`step : TermState → Op → TermState × List Byte`, and
likewise parser, screen, canvas, string: no global state; the theorem is instantiated for the terminal only).  That the CODE has that shape is
(i) a regenerated fact: the inventory of all static-storage objects in writable sections of the built
library, each matched to a `const`/`constexpr` source declaration (`no_mutable_statics`, re-checked on every
run), and (ii) the interleaved / concurrent executions under ASan and TSan.  Data-race freedom is a property
of compiled code under the C++ memory model: partial (TSan explores schedules, it does not prove).
-/
namespace Tpp.Props.C12

variable {σ ι ο : Type}

/-- every object's output and final state under any schedule equal those of its solo run -/
theorem C12_interleave (m : Machine σ ι ο) (sched : List (Nat × ι)) :
    ∀ (init : Nat → σ) (k : Nat),
      (m.runSched init sched).2 k = (m.runSolo (init k) ((sched.filter (fun e => e.1 = k)).map (·.2))).2 ∧
      (m.runSched init sched).1 k = (m.runSolo (init k) ((sched.filter (fun e => e.1 = k)).map (·.2))).1 := by
  induction sched with
  | nil => intro init k; exact ⟨rfl, rfl⟩
  | cons e rest ih =>
    intro init k
    obtain ⟨j, i⟩ := e
    have := ih (fun x => if x = j then (m.step (init j) i).1 else init x) k
    simp only [Machine.runSched, List.filter_cons]
    by_cases h : j = k
    · subst h
      simp only [decide_true, if_true, List.map_cons, Machine.runSolo] at this ⊢
      exact ⟨by rw [this.1], this.2⟩
    · have hk : ¬ k = j := fun hc => h hc.symm
      simpa only [h, decide_false, Bool.false_eq_true, if_false, hk] using this

/-- the terminal encoder as a machine: what one object writes depends on its own history only -/
def terminalMachine (beh : Behaviour) : Machine TermState Op (List Byte) := ⟨step beh⟩

/-- … in particular for terminal objects: what object `k` has written is what it writes alone on its own operations -/
theorem C12_terminals (beh : Behaviour) (sched : List (Nat × Op)) (init : Nat → TermState) (k : Nat) :
    ((terminalMachine beh).runSched init sched).2 k =
      ((terminalMachine beh).runSolo (init k) ((sched.filter (fun e => e.1 = k)).map (·.2))).2 :=
  (C12_interleave (terminalMachine beh) sched init k).1

/-- regenerated from the object files on every run: every static-storage object in a writable section is
    declared `const`/`constexpr` in the source (the two objects in `.bss`, `default_vk` and `default_sequence`, are
    `const` objects with dynamic initialisation: written once, before first use) -/
theorem no_mutable_statics : Statics.statics.all (·.isConst) = true := by decide

-- non-vacuity: a schedule that interleaves two objects
example : ((terminalMachine {}).runSched (fun _ => {}) [(0, .hideCursor), (1, .showCursor), (0, .hideCursor)]).2 0
    = [hideCursorBytes, []] := by decide

end Tpp.Props.C12
