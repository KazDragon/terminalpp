import Tpp.Lemmas.Input
/-!
C05 – well-formed keyboard, mouse and control input decodes to exactly what was sent.

`Ref.Item` is the input protocol (ECMA-48 / xterm ctlseqs / NVT line endings, `Tpp/Ref/Input.lean`);
`tokens` is the model of `detail::parser` + `get_well_known_virtual_key` as driven by
`terminal::async_read` (`Tpp/Model/Parser.lean`, `Tpp/Model/Keys.lean`).  The decoder starts idle with
ARBITRARY scratch members (`initializer_`, `extender_`, `meta_`, `argument_`, `arguments_`, mouse scratch):
nothing a previous sequence left behind can leak into the decoding of the next one.
-/
namespace Tpp.Props.C05
open Tpp.Ref

/-- any concatenation of well-formed items is reported as exactly one token per item, in order, carrying
    the right key, modifiers, repeat count, mouse button, zero-based position and the original sequence -/
theorem C05_items (st : PState) (hidle : st.ctl = .idle) (items : List Item)
    (hwf : ∀ it ∈ items, it.wf = true) (hadj : Adjacent items) :
    tokens st (items.flatMap Item.bytes) = items.map Item.expected :=
  items_decode items hwf hadj st fun _ _ => .inl hidle

/-- the same from the two look-ahead states a bare CR / LF leaves behind, as long as the stream does not
    continue with the partner byte (which would make it the two-byte form of the same Enter) -/
theorem C05_items_after_enter (st : PState) (items : List Item)
    (hst : (st.ctl = .cr ∧ (items.flatMap Item.bytes).head? ≠ some 0x0A ∧ (items.flatMap Item.bytes).head? ≠ some 0x00)
           ∨ (st.ctl = .lf ∧ (items.flatMap Item.bytes).head? ≠ some 0x0D))
    (hwf : ∀ it ∈ items, it.wf = true) (hadj : Adjacent items) :
    tokens st (items.flatMap Item.bytes) = items.map Item.expected :=
  items_decode items hwf hadj st (startsOk_of_head hst)

/-- one item, any scratch: its token, and the decoder is ready for the next item -/
theorem C05_item (st : PState) (hidle : st.ctl = .idle) (it : Item) (hwf : it.wf = true) :
    tokens st it.bytes = [it.expected]
    ∧ ((feedAll it.bytes st).ctl = .idle ∨ (it = .enter .cr ∧ (feedAll it.bytes st).ctl = .cr)
       ∨ (it = .enter .lf ∧ (feedAll it.bytes st).ctl = .lf)) := by
  have h := item_from_idle it hwf st hidle
  refine ⟨h.1, ?_⟩
  rw [h.2]
  cases it with
  | enter f => cases f <;> simp [afterCtl]
  | _ => simp [afterCtl]

/-- the decoding of an item never depends on the items that preceded it: the instance of `C05_items` the property's last
    sentence speaks of -/
theorem C05_history_independent (st : PState) (hidle : st.ctl = .idle) (before : List Item) (it : Item)
    (hwf : ∀ x ∈ before ++ [it], x.wf = true) (hadj : Adjacent (before ++ [it])) :
    tokens st ((before ++ [it]).flatMap Item.bytes) = before.map Item.expected ++ [it.expected] := by
  rw [C05_items st hidle _ hwf hadj]; simp

/-- the library's modifier table is xterm's rule `parameter = 1 + (shift·1 + alt·2 + ctrl·4 + meta·8)` -/
theorem C05_modifier_rule (m : Mods) : convertModifier (decDigits m.code) = m.bits := convertModifier_code m

/-- the library's three key tables are the xterm tables -/
theorem C05_key_tables :
    (∀ f : Byte, lookupByte f cursorTable = (csiKeyOfFinal f).map CsiKey.vk)
    ∧ (∀ f : Byte, lookupByte f ss3Table = (ss3KeyOfFinal f).map Ss3Key.vk)
    ∧ (∀ n : Nat, lookupInt (n : Int) keypadTable = (padKeyOfCode n).map PadKey.vk) :=
  ⟨lookup_cursor_eq, lookup_ss3_eq, lookup_keypad_eq⟩

/-- X10 mouse report: Cb = 32 + button code, Cx = 32 + (x + 1); 222 = 255 − 33 is the largest position a byte carries -/
theorem C05_mouse_table (b : Button) (x : Nat) (hx : x ≤ 222) :
    mouseOf (UInt8.ofNat (32 + b.code)) = b.ev ∧ mouseCoord (UInt8.ofNat (32 + (x + 1))) = (x : Int) :=
  ⟨mouseOf_button b, mouseCoord_enc x hx⟩

/-- a scratch state full of leftovers: meta flag set, a private marker, an argument list, an SS3 initializer,
    a mouse button and position -/
def dirty : PState :=
  { ctl := .idle, initializer := 0x4F, extender := 0x3F, metaFlag := true, mouseEv := .wheelUp,
    mouseX := 7, mouseY := 9, arg := [0x32], args := [[0x31], []] }

/-- a stream with every kind of item -/
def sample : List Item :=
  [ .char 0x61, .enter .cr, .csiKey (.seven true) .up (some 5) (some { shift := true, ctrl := true }),
    .enter .lf, .ss3Key .eight .f1, .keypad (.seven false) .f12 (some { metaKey := true }),
    .csi .eight (some .question) [some 1, none, some 4294967297] 0x68, .enter .crlf,
    .mouse (.seven false) .wheelDown 0 222, .char 0x00, .enter .crnul, .enter .lfcr,
    .csi (.seven false) none [some 200] 0x7E ]

-- non-vacuity: the hypotheses of C05_items are satisfiable by a dirty state and a stream of all item kinds
example : dirty.ctl = .idle ∧ (∀ it ∈ sample, it.wf = true) ∧ Adjacent sample ∧ sample.length = 13 := by
  refine ⟨rfl, ?_, ?_, rfl⟩
  · decide +kernel
  · unfold Adjacent; decide +kernel
-- … and the after-Enter variant: a decoder that has just seen a bare CR, stream starting with a letter
example : ({ dirty with ctl := .cr } : PState).ctl = .cr ∧ ([Item.char 0x61].flatMap Item.bytes).head? ≠ some 0x0A := by
  decide +kernel
-- the conclusion on a concrete instance (kernel evaluation of model and specification)
example : tokens dirty ([Item.enter .cr, .ss3Key (.seven true) .up, .mouse .eight .left 3 4].flatMap Item.bytes)
    = [.key { key := Consts.vk_enter, mods := 0, rep := 1, seq := .byte 0x0A },
       .key { key := Consts.vk_cursor_up, mods := Consts.vkmod_meta, rep := 1,
              seq := .ctrl { initiator := 0x4F, command := 0x41, metaFlag := true, args := [[]], extender := 0 } },
       .mouse .leftDown 3 4] := by decide +kernel

end Tpp.Props.C05
