import Tpp.Lemmas.MarkupLoop
/-!
C07 (markup half) – arbitrary text given to the attribute-markup decoder (`encode`, `_ets`, `_ete`):
the decoder never yields more elements than input characters, never indexes its handler table out of
bounds, and every function terminates.  All definitions of `Tpp.Model.Markup` are accepted by Lean as total:
`parseLoop` by structural recursion on the text, `encode` by a call counter that is never exhausted
(`C07_markup_fuel`), because every call makes progress (`C07_markup_progress`).  "Without undefined behaviour"
on the compiled code is covered by running every stream of C10 and the hostile streams of
`vlib/props/c07_markup_cases.py` under ASan+UBSan.
-/
namespace Tpp.Props.C07Markup
open Tpp.Markup

/-- the markup decoder never yields more elements than input characters -/
theorem C07_markup_bound (cs : List Byte) : (encode cs).length ≤ cs.length :=
  encodeFuel_count_le cs.length cs {}

-- the bound is attained (plain text), and an unfinished trailing directive still yields an element
example : (encode ([0x41, 0x42, 0x43] : List Byte)).length = 3 := by decide +kernel
example : (encode (/- a\ -/ [0x61, 0x5C] : List Byte)).length = 2 := by decide +kernel
example : (encode (/- \i>\[2 -/ [0x5C, 0x69, 0x3E, 0x5C, 0x5B, 0x32] : List Byte)).length = 1 := by decide +kernel

/-- every `parse_element` call made by `encode` consumes at least one character: the loop of `encode`
    terminates after at most `text.length` calls -/
theorem C07_markup_progress (b : Byte) (bs : List Byte) (prev : Element) :
    (parseElement (b :: bs) prev).2.length ≤ bs.length :=
  parseElement_consumes b bs prev

/-- the call counter of the model's `encode` is never exhausted: any larger counter gives the same result -/
theorem C07_markup_fuel (n : Nat) (cs : List Byte) (h : cs.length ≤ n) : encodeFuel n cs {} = encode cs :=
  encodeFuel_enough n cs {} h

/-- the handler table has exactly the 38 entries of the source, and `done` is the one state beyond it -/
theorem C07_handler_table : handlerTable.length = 38 ∧ PState.done.index = 38 ∧ handlerTable[PState.done.index]? = none :=
  ⟨rfl, rfl, rfl⟩

/-- every state but `done` has an index inside the table … -/
theorem C07_handler_state_index (st : PState) (h : st ≠ .done) : st.index < 38 := by
  cases st <;> first | decide | exact absurd rfl h

/-- … and the loop never looks a handler up for `done` or beyond: the loop that indexes the 38-entry table
    with `static_cast<int>(state)` – an out-of-bounds read is `none` – always succeeds and agrees with the
    model, from every state, for every text -/
theorem C07_handler_index (text : List Byte) (st : PState) (sc : Scratch) (e : Element) :
    parseLoopChecked text st sc e = some (parseLoop text st sc e) :=
  parseLoopChecked_eq text st sc e

theorem C07_handler_index_parse_element (text : List Byte) (base : Element) :
    parseLoopChecked text .idle {} (elementWithBase base) = some (parseElement text base) :=
  C07_handler_index text .idle {} (elementWithBase base)

-- non-vacuity: the checked loop does fail when a lookup is out of bounds – with the same dispatch over a
-- table that is one entry short, the last handler state (`utf8_3`, index 37) is such a lookup
example : (handlerTable.take 37)[PState.utf3.index]? = none := by decide +kernel
example : parseLoopChecked (/- \U263A! -/ [0x5C, 0x55, 0x32, 0x36, 0x33, 0x41, 0x21] : List Byte) .idle {} {} =
    some ({ glyph := { b0 := 0xE2, b1 := 0x98, b2 := 0xBA, cs := .utf8 } }, [0x21]) := by decide +kernel

end Tpp.Props.C07Markup
