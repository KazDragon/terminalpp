import Tpp.Props.C10
import Tpp.Lemmas.Step
/-!
Cross-slice corollaries (not among the 20 listed properties; they show the slices compose):
markup text → decoded string → terminal bytes → what the reference terminal displays.
-/
namespace Tpp.Props.E2E
open Tpp.Markup Tpp.Ref

/-- **markup to display**: writing the decoded form of ANY spelling of a markup text (directives in any
    order, any designator alias, either hex case …) makes the reference terminal show exactly the elements the
    documented language says the text denotes – from any state in which belief and terminal agree. -/
theorem markup_to_display (beh : Behaviour) (s : TermState) (vt : VT) (hA : Agree s vt) (sps : List Spelling)
    (hw : ∀ e ∈ denoteAll sps, e.wf = true) :
    ∃ entries, (vt.feedAll (step beh s (.writeString (encode (sps.flatMap Spelling.print)))).2).log = vt.log ++ entries ∧
      entries.map (·.2.2) = (denoteAll sps).map cellOf := by
  have hdec := Tpp.Props.C10.C10_decode_spelling sps
  have hwf : ∀ e ∈ encode (sps.flatMap Spelling.print), e.wf = true := by
    intro e he
    rw [← wf_norm]; exact hw _ (hdec ▸ List.mem_map_of_mem he)
  obtain ⟨entries, h1, h2⟩ := step_log beh s vt hA (.op (.writeString _)) hwf
  refine ⟨entries, h1, ?_⟩
  rw [h2, ← hdec, List.map_map, show cellOf ∘ norm = cellOf from funext cellOf_norm]; rfl

/-- plain text (no backslash) written through `_ets` is displayed byte for byte with default attributes -/
theorem plain_text_to_display (beh : Behaviour) (s : TermState) (vt : VT) (hA : Agree s vt) (bs : List Byte)
    (hb : (0x5C : Byte) ∉ bs) (hg : ∀ b ∈ bs, isGraphic1 b = true) :
    ∃ entries, (vt.feedAll (step beh s (.writeString (encode bs))).2).log = vt.log ++ entries ∧
      entries.map (·.2.2) = bs.map (fun b => ({ bytes := [b], cs := .usAscii, rend := {} } : Cell)) := by
  rw [Tpp.Props.C10.C10_plain bs hb]
  have hwf : ∀ e ∈ bs.map plainElement, e.wf = true := by
    intro e he
    obtain ⟨b, hbm, rfl⟩ := List.mem_map.mp he
    -- `Element.wf (plainElement b)`, unfolded
    show (isGraphic1 b && Attr.valid {}) = true
    rw [hg b hbm]; rfl
  obtain ⟨entries, h1, h2⟩ := step_log beh s vt hA (.op (.writeString _)) hwf
  refine ⟨entries, h1, ?_⟩
  rw [h2]; exact (List.map_map ..).trans (List.map_congr_left fun b _ => cellOf_plainElement b)

end Tpp.Props.E2E
