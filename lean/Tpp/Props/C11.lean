import Tpp.Lemmas.DrawFrame
/-!
C11 – mode switches leave the last requested mode in effect and respect capabilities.

`Requested` is the specification-level account of a history: the most recent request of each kind.
`Consistent` says what that means for the terminal's modes, given the declared capabilities and the
terminal's (unknown) initial modes `m0`.  The theorem holds for all interleavings with text, cursor and
erase operations and resizes, for all 16 combinations of the mouse / title capability flags.
-/
namespace Tpp.Props.C11

structure Requested where
  vis : Option Bool := none
  buf : Option Bool := none
  mouse : Option Bool := none
  title : Option (List Byte) := none

def Requested.after (r : Requested) : Ev → Requested
  | .op .hideCursor => { r with vis := some false }
  | .op .showCursor => { r with vis := some true }
  | .op .normalBuffer => { r with buf := some false }
  | .op .altBuffer => { r with buf := some true }
  | .op .enableMouse => { r with mouse := some true }
  | .op .disableMouse => { r with mouse := some false }
  | .op (.setTitle t) => { r with title := some t }
  | _ => r

def requested (evs : List Ev) : Requested := evs.foldl Requested.after {}

structure Consistent (beh : Behaviour) (m0 : VT.Modes) (r : Requested) (m : VT.Modes) : Prop where
  vis : (∀ b, r.vis = some b → m.vis = b) ∧ (r.vis = none → m.vis = m0.vis)
  buf : (∀ b, r.buf = some b → m.alt = b) ∧ (r.buf = none → m.alt = m0.alt)
  /-- basic tracking supported: mode 1000 follows the requests, mode 1003 is never touched -/
  mouseBasic : beh.basicMouse = true →
    (∀ b, r.mouse = some b → m.m1000 = b) ∧ (r.mouse = none → m.m1000 = m0.m1000) ∧ m.m1003 = m0.m1003
  /-- only all-motion tracking supported: mode 1003 follows the requests, mode 1000 is never touched -/
  mouseAll : beh.basicMouse = false → beh.allMouse = true →
    (∀ b, r.mouse = some b → m.m1003 = b) ∧ (r.mouse = none → m.m1003 = m0.m1003) ∧ m.m1000 = m0.m1000
  mouseNone : beh.basicMouse = false → beh.allMouse = false → m.m1000 = m0.m1000 ∧ m.m1003 = m0.m1003
  title : ((beh.titleBel || beh.titleSt) = true → (∀ t, r.title = some t → m.title = t) ∧ (r.title = none → m.title = m0.title))
  titleNone : (beh.titleBel || beh.titleSt) = false → m.title = m0.title

theorem consistent_init (beh : Behaviour) (m0 : VT.Modes) : Consistent beh m0 {} m0 :=
  ⟨⟨(by intro b h; cases h), fun _ => rfl⟩, ⟨(by intro b h; cases h), fun _ => rfl⟩,
   fun _ => ⟨(by intro b h; cases h), fun _ => rfl, rfl⟩, fun _ _ => ⟨(by intro b h; cases h), fun _ => rfl, rfl⟩,
   fun _ _ => ⟨rfl, rfl⟩, fun _ => ⟨(by intro t h; cases h), fun _ => rfl⟩, fun _ => rfl⟩

/-- the shape of a `Consistent` clause after `r.field := some a` -/
theorem honoured {α : Type} (a x0 : α) : (∀ b, some a = some b → a = b) ∧ (some a = none → a = x0) :=
  ⟨fun _ h => Option.some.inj h, nofun⟩

theorem consistent_mouse (beh : Behaviour) (m0 : VT.Modes) (r : Requested) (m : VT.Modes) (on : Bool)
    (h : Consistent beh m0 r m) :
    Consistent beh m0 { r with mouse := some on }
      (if beh.basicMouse then { m with m1000 := on } else if beh.allMouse then { m with m1003 := on } else m) := by
  cases hb : beh.basicMouse with
  | true =>
    exact { h with mouseBasic := fun _ => ⟨(honoured on m0.m1000).1, (honoured on m0.m1000).2, (h.mouseBasic hb).2.2⟩,
                   mouseAll := fun hf => (nomatch hb.symm.trans hf), mouseNone := fun hf => (nomatch hb.symm.trans hf) }
  | false =>
    cases ha : beh.allMouse with
    | true =>
      exact { h with mouseBasic := fun hf => (nomatch hb.symm.trans hf),
                     mouseAll := fun _ _ => ⟨(honoured on m0.m1003).1, (honoured on m0.m1003).2, (h.mouseAll hb ha).2.2⟩,
                     mouseNone := fun _ hf => (nomatch ha.symm.trans hf) }
    | false =>
      exact { h with mouseBasic := fun hf => (nomatch hb.symm.trans hf), mouseAll := fun _ hf => (nomatch ha.symm.trans hf),
                     mouseNone := fun _ _ => h.mouseNone hb ha }

theorem consistent_step (beh : Behaviour) (m0 : VT.Modes) (r : Requested) (m : VT.Modes) (ev : Ev)
    (h : Consistent beh m0 r m) : Consistent beh m0 (r.after ev) (modesAfter beh m ev) := by
  cases ev with
  | resize _ _ _ _ _ _ _ => exact h
  | op o =>
    cases o with
    | hideCursor => exact { h with vis := honoured false _ }
    | showCursor => exact { h with vis := honoured true _ }
    | normalBuffer => exact { h with buf := honoured false _ }
    | altBuffer => exact { h with buf := honoured true _ }
    | enableMouse => exact consistent_mouse beh m0 r m true h
    | disableMouse => exact consistent_mouse beh m0 r m false h
    | setTitle t =>
      simp only [Requested.after, modesAfter]
      cases hc : (beh.titleBel || beh.titleSt) with
      | true => exact { h with title := fun _ => honoured t _, titleNone := fun hf => (nomatch hc.symm.trans hf) }
      | false => exact { h with title := fun hf => (nomatch hc.symm.trans hf), titleNone := fun _ => h.titleNone hc }
    | _ => exact h

theorem consistent_foldl (beh : Behaviour) (m0 : VT.Modes) (evs : List Ev) (r : Requested) (m : VT.Modes)
    (h : Consistent beh m0 r m) : Consistent beh m0 (evs.foldl Requested.after r) (evs.foldl (modesAfter beh) m) :=
  List.foldl_rel (r := Consistent beh m0) h fun ev _ r m => consistent_step beh m0 r m ev

/-- **the property**: after any in-domain history the terminal's cursor visibility, active buffer, mouse
    reporting and title are the ones most recently requested (elision notwithstanding), modes the
    behaviour does not support are never touched, and requests of a kind never made leave the terminal's
    own initial value alone. -/
theorem C11_modes (beh : Behaviour) (evs : List Ev) :
    ∀ (st : TermState × VT) (r : Requested) (m0 : VT.Modes), Agree st.1 st.2 → RunWF beh st evs →
      Consistent beh m0 r st.2.modes →
      Consistent beh m0 (evs.foldl Requested.after r) (Sys.run beh st evs).2.modes := by
  intro st r m0 hA hw h
  rw [(sim_run beh st hA evs hw).2.2]
  exact consistent_foldl beh m0 evs r _ h

/-- from the start of a session: unknown initial modes `vt.modes` -/
theorem C11_modes_from_start (beh : Behaviour) (st : TermState × VT) (hA : Agree st.1 st.2) (evs : List Ev)
    (hwf : RunWF beh st evs) :
    Consistent beh st.2.modes (requested evs) (Sys.run beh st evs).2.modes :=
  C11_modes beh evs st {} st.2.modes hA hwf (consistent_init beh st.2.modes)

/-- **no size needed**: the same statement for histories in which the library's idea of sizes and positions
    is arbitrary – no `set_size` at all, a `set_size` that does not match the terminal, the terminal resized
    without the library being told, cursor moves to any non-negative position.  Mode switches never depend on
    where the library believes the cursor is. -/
theorem C11_modes_any_size (beh : Behaviour) (evs : List REv) :
    ∀ (st : TermState × VT) (r : Requested) (m0 : VT.Modes), AgreeRend st.1 st.2 → RRunWF beh st evs →
      Consistent beh m0 r st.2.modes →
      Consistent beh m0 ((evs.map REv.toEv).foldl Requested.after r) (RSys.run beh st evs).2.modes := by
  intro st r m0 hA hw h
  rw [(rsim_run beh st hA evs hw).2.2]
  exact consistent_foldl beh m0 _ r _ h

/-- a fresh `terminal` that never declares a size, on a terminal in any unknown state -/
theorem C11_modes_readme (beh : Behaviour) (vt0 : VT) (hu : vt0.Unknown) (evs : List REv)
    (hwf : RRunWF beh ({}, vt0) evs) :
    Consistent beh vt0.modes (requested (evs.map REv.toEv)) (RSys.run beh ({}, vt0) evs).2.modes :=
  C11_modes_any_size beh evs ({}, vt0) {} vt0.modes (agreeRend_init vt0 hu) hwf (consistent_init beh vt0.modes)

/-- nothing is sent for a capability the behaviour does not declare -/
theorem C11_no_bytes_without_capability (beh : Behaviour) (s : TermState) (t : List Byte) :
    (beh.basicMouse = false → beh.allMouse = false →
        (step beh s .enableMouse).2 = [] ∧ (step beh s .disableMouse).2 = []) ∧
    (beh.titleBel = false → beh.titleSt = false → (step beh s (.setTitle t)).2 = []) := by
  constructor
  · intro h1 h2; simp [step, mouseBytes, h1, h2]
  · intro h1 h2; simp [step, titleBytes, h1, h2]

/-- the title terminator is BEL when `supports_window_title_bel`, otherwise ST -/
theorem C11_title_terminator (beh : Behaviour) (s : TermState) (t : List Byte) :
    (beh.titleBel = true → (step beh s (.setTitle t)).2.getLast? = some 0x07) ∧
    (beh.titleBel = false → beh.titleSt = true →
        ∃ pre, (step beh s (.setTitle t)).2 = pre ++ [0x1B, 0x5C]) := by
  constructor
  · intro h
    rw [show (step beh s (.setTitle t)).2 = (oscBytes ++ [Consts.osc_set_window_title, Consts.ps] ++ t) ++ [0x07] by
      simp [step, titleBytes, h], List.getLast?_concat]
  · intro h1 h2
    refine ⟨oscBytes ++ [Consts.osc_set_window_title, Consts.ps] ++ t, ?_⟩
    have : stBytes = [0x1B, 0x5C] := by decide
    simp [step, titleBytes, h1, h2, this]

/-- disabling undoes exactly what enabling did: the same mode number, with `l` for `h` -/
theorem C11_disable_mirrors_enable (beh : Behaviour) (s : TermState) :
    ∃ pre, (step beh s .enableMouse).2 = pre ++ (if pre = [] then [] else Consts.dec_pm_set) ∧
           (step beh s .disableMouse).2 = pre ++ (if pre = [] then [] else Consts.dec_pm_reset) := by
  by_cases h1 : beh.basicMouse = true
  · exact ⟨decPmBytes ++ Consts.dec_pm_basic_mouse_tracking, by simp [step, mouseBytes, h1], by simp [step, mouseBytes, h1]⟩
  · by_cases h2 : beh.allMouse = true
    · exact ⟨decPmBytes ++ Consts.dec_pm_all_motion_mouse_tracking, by simp [step, mouseBytes, h1, h2], by simp [step, mouseBytes, h1, h2]⟩
    · exact ⟨[], by simp [step, mouseBytes, h1, h2], by simp [step, mouseBytes, h1, h2]⟩

-- `requested` on a history with repeated requests: the last one of each kind counts
example : (requested [.op .hideCursor, .op .hideCursor, .op .enableMouse, .op (.setTitle [0x41]), .op .showCursor]).vis = some true := rfl

/-! ### Draws are not mode requests

`screen::draw` streams erases, cursor moves and elements to its terminal.  None of them is a mode request, so
whatever was last requested is still in effect after any draw of any canvas – on any terminal, whatever the library
believes about sizes and positions. -/

/-- operations that are not requests for a mode -/
def noMode : Op → Bool
  | .hideCursor | .showCursor | .normalBuffer | .altBuffer | .enableMouse | .disableMouse | .setTitle _ => false
  | _ => true

theorem modesAfter_noMode (beh : Behaviour) (m : VT.Modes) (o : Op) (h : noMode o = true) :
    modesAfter beh m (.op o) = m := by
  cases o <;> simp_all [modesAfter, noMode]

/-- any run of operations none of which is a mode request leaves the terminal's modes as they were -/
theorem run_noMode_modes (beh : Behaviour) (ops : List Op) :
    ∀ (st : TermState × VT), AgreeRend st.1 st.2 → (∀ op ∈ ops, op.WFR0 ∧ noMode op = true) →
      (RSys.run beh st (ops.map REv.op)).2.modes = st.2.modes := by
  intro st hA hall
  rw [(rsim_run beh st hA _ (rrunwf_of_all beh ops (fun o ho => (hall o ho).1) st)).2.2, List.map_map, List.foldl_map]
  -- every step of the fold is the identity (`modesAfter_noMode`)
  exact List.foldlRecOn (motive := (· = st.2.modes)) ops _ rfl fun m hm o ho =>
    (modesAfter_noMode beh m o (hall o ho).2).trans hm

/-- **a draw keeps the modes**: cursor visibility, active buffer, mouse reporting and title of the terminal are the
    same after `screen.draw(c)` as before it, for every screen state, every (well-formed) canvas and every terminal
    on which the library's idea of the rendition is right – no assumption about sizes or positions -/
theorem C11_draw_keeps_modes (beh : Behaviour) (scr : ScreenState) (c : Canvas) (s : TermState) (vt : VT)
    (hA : AgreeRend s vt) (hwf : c.cellsWF) :
    (vt.feedAll (drawRun beh scr c s).2).modes = vt.modes := by
  have := run_noMode_modes beh (Screen.draw scr c).2 (s, vt) hA fun op hop =>
    ⟨drawOps_wfr0 hwf op hop, by rcases mem_drawOps hwf hop with rfl | ⟨_, _, _, rfl⟩ | ⟨_, _, rfl⟩ <;> rfl⟩
  rwa [RSys.run_ops] at this

/-- after `hide_cursor` and then any draw the cursor is still hidden -/
theorem C11_hide_then_draw (beh : Behaviour) (scr : ScreenState) (c : Canvas) (s : TermState) (vt : VT)
    (hA : AgreeRend s vt) (hwf : c.cellsWF) :
    let st1 := RSys.step beh (s, vt) (.op .hideCursor)
    (st1.2.feedAll (drawRun beh scr c st1.1).2).cursorVisible = false := by
  intro st1
  have hw : (REv.op Op.hideCursor).WF s := trivial
  have hA1 := (agreeRend_step beh s vt hA (.op .hideCursor) hw).1
  have hm := rstep_modes beh s vt hA (.op .hideCursor) hw
  have hd := C11_draw_keeps_modes beh scr c st1.1 st1.2 hA1 hwf
  show (st1.2.feedAll (drawRun beh scr c st1.1).2).modes.vis = false
  rw [hd, hm]; rfl

/-- non-vacuity: a fresh terminal object on a terminal in any unknown state, first paint of a blank 10x8 canvas -/
example (beh : Behaviour) (vt0 : VT) (hu : vt0.Unknown) :
    (vt0.feedAll (drawRun beh {} (Canvas.new ⟨10, 8⟩) {}).2).modes = vt0.modes :=
  C11_draw_keeps_modes beh {} _ {} vt0 (agreeRend_init vt0 hu)
    (fun x y _ _ _ _ => by rw [new_get_default]; decide)

end Tpp.Props.C11
