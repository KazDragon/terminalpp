import Tpp.Lemmas.RendOnly
/-!
C01 – attributed text is rendered with exactly the requested attributes and charset.

`Sys.run` runs the library model and the reference terminal together (every byte the model emits is fed
to `Ref.VT`; a resize event changes both).  `cellOf e` is the *specification* of what a terminal should
show for `e` (text, character set, and the rendition `rendOf e.attr`: bold/faint, underline, blink,
inverse, foreground, background) – written without reference to the encoder.  `malformed = false ∧ ps = .ground` is
the property's sentence "every byte written is glyph payload or part of a well-formed control function".
-/
namespace Tpp.Props.C01

/-- For every in-domain history (element/string writes interleaved with erases, cursor moves,
    save/restore, modes, titles, resizes), from any state in which belief and terminal agree:
    the terminal's print log grows by exactly the requested elements' cells, in order; the reference
    parser never meets a byte it cannot place; and it ends between control functions. -/
theorem C01_rendering (beh : Behaviour) (st : TermState × VT) (hA : Agree st.1 st.2) (evs : List Ev)
    (hwf : RunWF beh st evs) :
    (∃ entries, (Sys.run beh st evs).2.log = st.2.log ++ entries ∧
        entries.map (·.2.2) = (evs.flatMap Ev.elements).map cellOf) ∧
    (Sys.run beh st evs).2.malformed = false ∧ (Sys.run beh st evs).2.ps = .ground := by
  have h := agree_run beh evs st hA hwf
  exact ⟨run_log beh evs st hA hwf, h.1.ok, h.1.ground⟩

/-- … in particular for a fresh `terminal` object talking to a terminal in an unknown state – ANY initial
    rendition, cursor, contents, modes – once the size has been declared; for both values of
    `unicode_in_all_charsets` (`beh` is arbitrary). -/
theorem C01_rendering_fresh (beh : Behaviour) (vt0 : VT) (hu : vt0.Unknown)
    (w h : Nat) (cells : Bool → Grid) (cx cy : Nat) (saved : Option (Nat × Nat)) (pending : Bool)
    (evs : List Ev) (hwf : RunWF beh (Sys.step beh ({}, vt0) (.resize w h cells cx cy saved pending)) evs) :
    let vt := (Sys.run beh ({}, vt0) (.resize w h cells cx cy saved pending :: evs)).2
    (∃ entries, vt.log = vt0.log ++ entries ∧ entries.map (·.2.2) = (evs.flatMap Ev.elements).map cellOf) ∧
    vt.malformed = false ∧ vt.ps = .ground := by
  -- the run from `({}, vt0)` is the run from the resize step (`Sys.run_cons`), and that step leaves the log alone
  exact C01_rendering beh _ (agree_resize_fresh beh {} vt0 (agreeRend_init vt0 hu) w h cells cx cy saved pending) evs hwf

/-- one `terminal << element`: exactly one glyph, shown as `cellOf e`, whatever was written before -/
theorem C01_step_write (beh : Behaviour) (s : TermState) (vt : VT) (hA : Agree s vt) (e : Element) (hw : e.wf = true) :
    ∃ x y, (vt.feedAll (step beh s (.writeElement e)).2).log = vt.log ++ [(x, y, cellOf e)] :=
  writeElement_log beh s vt hA.1 e hw

/-- at every point (every prefix) of an in-domain history the byte stream is well formed and ends between control
    functions -/
theorem C01_wellformed (beh : Behaviour) (st : TermState × VT) (hA : Agree st.1 st.2) (evs : List Ev)
    (hwf : RunWF beh st evs) (k : Nat) :
    (Sys.run beh st (evs.take k)).2.malformed = false ∧ (Sys.run beh st (evs.take k)).2.ps = .ground :=
  (C01_rendering beh st hA (evs.take k) (RunWF.take beh evs st k hwf)).2

-- non-vacuity: a concrete unknown terminal (bold red-on-blue, cursor parked somewhere) and a concrete history
def demoVT : VT :=
  { w := 3, h := 2, wrap := .deferred, eraseMode := .bce, cx := 2, cy := 1, pending := true,
    rend := { bold := true, fg := .idx 1, bg := .idx 4 }, g0 := .usAscii, utf8 := false, cursorVisible := true,
    mouse1000 := false, mouse1003 := false, alt := false, title := [], saved := none, ps := .ground,
    malformed := false, log := [], cells := fun _ _ _ => Cell.blank }
def demoEl : Element := { glyph := { b0 := 0xC3, b1 := 0xA9, b2 := 0, cs := .utf8 }, attr := { blinking := .blink, fg := .high 196 } }
example : demoVT.Unknown := ⟨rfl, rfl, rfl, rfl⟩
example : demoEl.wf = true := by decide
example : RunWF {} (Sys.step {} ({}, demoVT) (.resize 3 2 demoVT.cells 0 0 none false))
    [.op (.writeElement demoEl), .op (.moveCursor ⟨2, 1⟩), .op (.erase .lineLeft), .op (.writeString [demoEl, {}])] := by
  refine ⟨?_, ?_, trivial, ?_, trivial⟩
  · show demoEl.wf = true; decide
  · show (0:Int) ≤ 2 ∧ (2:Int) < _ ∧ (0:Int) ≤ 1 ∧ (1:Int) < _
    decide
  · intro e he; simp at he; rcases he with rfl | rfl <;> decide

/-- **no size needed**: the rendering clause holds whatever the library believes about sizes and positions –
    no `set_size` at all (the README's use), a `set_size` that does not match the terminal, the terminal
    resized without the library being told (`REv.termResize`), cursor moves to ANY non-negative position
    (`Op.WFR` puts no bound on them).  Moves may then land elsewhere than asked (that is C02's business and
    needs the size), but every requested glyph is printed, in order, with exactly the requested look, and the
    byte stream stays well formed. -/
theorem C01_rendering_any_size (beh : Behaviour) (st : TermState × VT) (hA : AgreeRend st.1 st.2) (evs : List REv)
    (hwf : RRunWF beh st evs) :
    (∃ entries, (RSys.run beh st evs).2.log = st.2.log ++ entries ∧
        entries.map (·.2.2) = (evs.flatMap REv.elements).map cellOf) ∧
    (RSys.run beh st evs).2.malformed = false ∧ (RSys.run beh st evs).2.ps = .ground := by
  obtain ⟨h1, h2⟩ := agreeRend_run beh evs st hA hwf
  exact ⟨h2, h1.ok, h1.ground⟩

/-- … in particular for a fresh `terminal` object that never declares a size, talking to a terminal in ANY
    unknown state (rendition, size, contents, cursor, modes) -/
theorem C01_rendering_readme (beh : Behaviour) (vt0 : VT) (hu : vt0.Unknown) (evs : List REv)
    (hwf : RRunWF beh ({}, vt0) evs) :
    (∃ entries, (RSys.run beh ({}, vt0) evs).2.log = vt0.log ++ entries ∧
        entries.map (·.2.2) = (evs.flatMap REv.elements).map cellOf) ∧
    (RSys.run beh ({}, vt0) evs).2.malformed = false ∧ (RSys.run beh ({}, vt0) evs).2.ps = .ground :=
  C01_rendering_any_size beh ({}, vt0) (agreeRend_init vt0 hu) evs hwf

-- non-vacuity: no size declared, a move far outside the 3x2 terminal, a lying set_size, a silent resize
example : RRunWF {} ({}, demoVT)
    [.op (.writeString [demoEl, {}]), .op (.moveCursor ⟨500, 70⟩), .op (.writeElement demoEl), .op (.setSize ⟨10, 10⟩),
     .termResize 7 7 demoVT.cells 6 6 none true, .op (.erase .above), .op (.moveCursor ⟨9, 9⟩), .op (.writeElement {})] := by
  refine ⟨?_, ?_, ?_, trivial, trivial, trivial, ?_, ?_, trivial⟩
  · intro e he; simp at he; rcases he with rfl | rfl <;> decide
  · show (0:Int) ≤ 500 ∧ (0:Int) ≤ 70; decide
  · show demoEl.wf = true; decide
  · show (0:Int) ≤ 9 ∧ (0:Int) ≤ 9; decide
  · show ({} : Element).wf = true; decide

end Tpp.Props.C01
