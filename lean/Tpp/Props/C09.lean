import Tpp.Lemmas.RendOnly
/-!
C09 – erases leave default-attribute blanks and keep attribute tracking right.

`eraseRegion` is the specification of what each manipulator's *name* says (relative to the cursor);
`Cell.blank` is a blank with default attributes.  The terminal's erase behaviour (`plain`, `bce` =
erase with the current background, `current` = erase with the whole current rendition) is unconstrained.
-/
namespace Tpp.Props.C09

/-- after the library's reset, every erase behaviour produces default-attribute blanks -/
theorem erased_is_blank (vt : VT) : ({ vt with rend := {} } : VT).erasedCell = Cell.blank :=
  VT.erasedCell_reset vt

/-- Each erase manipulator clears exactly its region to default-attribute blanks, touches no other cell (in either
    buffer), does not move the cursor or the pending-wrap flag, and leaves the rendition default.
    **No size needed**: the region is relative to where the terminal's cursor really is, and the reset before it
    depends only on the rendition – so merely the rendition half of the belief has to be true (no `set_size`, a
    wrong `set_size`, a false belief about the cursor). -/
theorem C09_erase_any_size (beh : Behaviour) (s : TermState) (vt : VT) (hA : AgreeRend s vt) (k : EraseKind) :
    let vt' := vt.feedAll (step beh s (.erase k)).2
    (∀ x y, eraseRegion k vt.cx vt.cy x y = true → vt'.cell x y = Cell.blank) ∧
    (∀ x y, eraseRegion k vt.cx vt.cy x y = false → vt'.cell x y = vt.cell x y) ∧
    (∀ x y, vt'.cells (!vt.alt) x y = vt.cells (!vt.alt) x y) ∧
    vt'.cx = vt.cx ∧ vt'.cy = vt.cy ∧ vt'.pending = vt.pending ∧ vt'.rend = {} ∧ vt'.alt = vt.alt := by
  intro vt'
  have h : vt' = ({ vt with rend := {} } : VT).eraseWhere (eraseRegion k vt.cx vt.cy) := feed_eraseOp beh s vt hA k
  rw [h]
  refine ⟨?_, ?_, ?_, rfl, rfl, rfl, rfl, rfl⟩
  · intro x y hr
    rw [VT.eraseWhere_cell, if_pos hr, erased_is_blank]
  · intro x y hr
    rw [VT.eraseWhere_cell, if_neg (by rw [hr]; decide)]; rfl
  · intro x y
    simp only [VT.eraseWhere]
    cases vt.alt <;> simp

/-- … in particular when the whole belief is true -/
theorem C09_erase (beh : Behaviour) (s : TermState) (vt : VT) (hA : Agree s vt) (k : EraseKind) :
    let vt' := vt.feedAll (step beh s (.erase k)).2
    (∀ x y, eraseRegion k vt.cx vt.cy x y = true → vt'.cell x y = Cell.blank) ∧
    (∀ x y, eraseRegion k vt.cx vt.cy x y = false → vt'.cell x y = vt.cell x y) ∧
    (∀ x y, vt'.cells (!vt.alt) x y = vt.cells (!vt.alt) x y) ∧
    vt'.cx = vt.cx ∧ vt'.cy = vt.cy ∧ vt'.pending = vt.pending ∧ vt'.rend = {} ∧ vt'.alt = vt.alt :=
  C09_erase_any_size beh s vt hA.1 k

/-- … for every preceding in-domain history -/
theorem C09_erase_after (beh : Behaviour) (st : TermState × VT) (hA : Agree st.1 st.2) (evs : List Ev)
    (hwf : RunWF beh st evs) (k : EraseKind) :
    let mid := Sys.run beh st evs
    let vt' := mid.2.feedAll (step beh mid.1 (.erase k)).2
    (∀ x y, eraseRegion k mid.2.cx mid.2.cy x y = true → vt'.cell x y = Cell.blank) ∧
    (∀ x y, eraseRegion k mid.2.cx mid.2.cy x y = false → vt'.cell x y = mid.2.cell x y) ∧
    vt'.cx = mid.2.cx ∧ vt'.cy = mid.2.cy ∧ vt'.pending = mid.2.pending := by
  obtain ⟨a, b, _, c, d, e, _, _⟩ := C09_erase beh _ _ (agree_run beh evs st hA hwf) k
  exact ⟨a, b, c, d, e⟩

/-- … after every history of the rendition-only domain (README use included), also as the very first operation on a
    terminal in an unknown state -/
theorem C09_erase_after_any_size (beh : Behaviour) (st : TermState × VT) (hA : AgreeRend st.1 st.2) (evs : List REv)
    (hwf : RRunWF beh st evs) (k : EraseKind) :
    let mid := RSys.run beh st evs
    let vt' := mid.2.feedAll (step beh mid.1 (.erase k)).2
    (∀ x y, eraseRegion k mid.2.cx mid.2.cy x y = true → vt'.cell x y = Cell.blank) ∧
    (∀ x y, eraseRegion k mid.2.cx mid.2.cy x y = false → vt'.cell x y = mid.2.cell x y) ∧
    vt'.cx = mid.2.cx ∧ vt'.cy = mid.2.cy ∧ vt'.pending = mid.2.pending := by
  obtain ⟨a, b, _, c, d, e, _, _⟩ := C09_erase_any_size beh _ _ (agreeRend_run beh evs st hA hwf).1 k
  exact ⟨a, b, c, d, e⟩

/-- attribute tracking stays right: the belief after an erase is true of the terminal, so text written after
    it appears with exactly its requested attributes (C01 applies from the resulting state) -/
theorem C09_tracking (beh : Behaviour) (s : TermState) (vt : VT) (hA : Agree s vt) (k : EraseKind) (e : Element)
    (hw : e.wf = true) :
    let s1 := (step beh s (.erase k)).1
    let vt1 := vt.feedAll (step beh s (.erase k)).2
    Agree s1 vt1 ∧ ∃ x y, (vt1.feedAll (step beh s1 (.writeElement e)).2).log = vt1.log ++ [(x, y, cellOf e)] := by
  intro s1 vt1
  have h1 : Agree s1 vt1 := agree_erase beh s vt hA k
  exact ⟨h1, writeElement_log beh s1 vt1 h1.1 e hw⟩

/-- the emitted bytes for a fresh object and for a known default rendition: a rendition reset in the first case, then
    exactly one ED/EL -/
theorem C09_bytes (beh : Behaviour) (k : EraseKind) :
    (step beh {} (.erase k)).2 = sgr0 ++ csiBytes ++ eraseSuffix k ∧
    (step beh { last := some {} } (.erase k)).2 = csiBytes ++ eraseSuffix k :=
  ⟨rfl, rfl⟩

-- non-vacuity: regions are proper subsets in general
example : eraseRegion .above 1 1 1 1 = true ∧ eraseRegion .above 1 1 2 1 = false ∧ eraseRegion .lineRight 1 1 0 1 = false := by decide

end Tpp.Props.C09
