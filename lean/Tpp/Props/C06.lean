import Tpp.Lemmas.Reads
/-!
C06 – the token stream is independent of how input bytes are split across reads, and every delivery
results in exactly one callback.

`deliverAll chunks st` is the model of a client that arms `terminal::async_read` and re-arms it from inside
the callback while the channel makes the deliveries `chunks` (empty ones included): it records the token
list handed to each callback invocation and counts the invocations.
-/
namespace Tpp.Props.C06

/-- C06: the deliveries of a partition, taken together, are the delivery of the whole -/
theorem deliverAll_flatten (chunks : List (List Byte)) : ∀ st : PState,
    (deliverAll chunks st).tokenLists.flatten = tokens st chunks.flatten
    ∧ (deliverAll chunks st).state = feedAll chunks.flatten st
    ∧ (deliverAll chunks st).callbacks = chunks.length
    ∧ (deliverAll chunks st).tokenLists.length = chunks.length := by
  induction chunks with
  | nil => intro st; simp [deliverAll_nil, tokens, rawTokens, feedAll]
  | cons c cs ih =>
    intro st
    have := ih (feedAll c st)
    simp [deliverAll_cons, tokens_append, feedAll_append, this]

/-- for arbitrary bytes and an arbitrary decoder state: the concatenation of the token lists handed to the
    callbacks does not depend on the partition, the decoder ends in the same state, and there is exactly one
    callback invocation (with its own, possibly empty, token list) per delivery -/
theorem C06_chunking (st : PState) (chunks : List (List Byte)) :
    (deliverAll chunks st).tokenLists.flatten = (deliverAll [chunks.flatten] st).tokenLists.flatten
    ∧ (deliverAll chunks st).callbacks = chunks.length
    ∧ (deliverAll chunks st).tokenLists.length = chunks.length
    ∧ (deliverAll chunks st).state = (deliverAll [chunks.flatten] st).state := by
  have h := deliverAll_flatten chunks st
  have h1 := deliverAll_flatten [chunks.flatten] st
  rw [List.flatten_singleton] at h1
  exact ⟨by rw [h.1, h1.1], h.2.2.1, h.2.2.2, by rw [h.2.1, h1.2.1]⟩

/-- two partitions of the same stream are indistinguishable to the client, apart from the grouping -/
theorem C06_any_two_partitions (st : PState) (p q : List (List Byte)) (h : p.flatten = q.flatten) :
    (deliverAll p st).tokenLists.flatten = (deliverAll q st).tokenLists.flatten := by
  rw [(deliverAll_flatten p st).1, (deliverAll_flatten q st).1, h]

/-- an empty delivery still invokes the callback (with an empty span) -/
theorem C06_empty_delivery (st : PState) : (deliverAll [[]] st).callbacks = 1 ∧ (deliverAll [[]] st).tokenLists = [[]] := by
  simp [deliverAll_cons, deliverAll_nil, tokens, rawTokens]

/-- a non-initial decoder state -/
def st0 : PState := { ctl := .lf, metaFlag := true, arg := [0x39] }
/-- `ESC [ 5 A a` cut into five deliveries, two of them empty -/
def chunks0 : List (List Byte) := [[0x1B], [], [0x5B, 0x35], [], [0x41, 0x61]]

-- non-vacuity: four token-less callbacks, then both tokens in the fifth
example :
    (deliverAll chunks0 st0).tokenLists =
      [[], [], [], [],
       [.key { key := Consts.vk_cursor_up, mods := 0, rep := 5,
               seq := .ctrl { initiator := 0x5B, command := 0x41, metaFlag := false, args := [[0x35]], extender := 0 } },
        .key { key := 0x61, mods := 0, rep := 1, seq := .byte 0x61 }]]
    ∧ (deliverAll chunks0 st0).callbacks = 5 := by decide +kernel

/-! ### Several reads posted

The statements above are about a client with ONE read outstanding.  `Tpp.Model.Reads` makes the posted reads explicit: a
client keeps `k ≥ 1` reads posted and re-arms one from inside every handler invocation; a delivery completes the oldest
posted read. -/

/-- **never stalls, whatever the window**: no delivery finds the client without a posted read; the handlers run in the
    order the reads were posted (the n-th delivery is served by the n-th read), each exactly once, with exactly the tokens
    of its own delivery – the same token lists as for the single-read client – and the window stays full -/
theorem C06_window_never_stalls (k : Nat) (hk : 1 ≤ k) (st0 : PState) (chunks : List (List Byte)) :
    let s := (RState.postN k { parser := st0 }).deliverAll chunks
    s.lost = [] ∧ s.served.map (·.1) = List.range' 0 chunks.length ∧
      s.served.map (·.2) = (deliverAll chunks st0).tokenLists ∧ s.posted.length = k :=
  have h := windowed_run k hk st0 chunks [] _ (windowed_init k st0)
  ⟨h.lost, h.ids, h.toks, h.posted ▸ List.length_range'⟩

/-- the hypothesis `1 ≤ k` is needed: a client that posts no read gets no callback at all -/
theorem C06_no_read_posted (st0 : PState) (chunks : List (List Byte)) :
    ((RState.postN 0 { parser := st0 }).deliverAll chunks).served = [] ∧
    ((RState.postN 0 { parser := st0 }).deliverAll chunks).lost = chunks := by
  simp [RState.postN, RState.deliverAll_of_none_posted]

-- non-vacuity: a window of three reads, `ESC [ 5 A a` cut into five deliveries
example : ((RState.postN 3 { parser := st0 }).deliverAll chunks0).served.map (·.1) = [0, 1, 2, 3, 4]
    ∧ ((RState.postN 3 { parser := st0 }).deliverAll chunks0).posted = [5, 6, 7] := by decide +kernel

end Tpp.Props.C06
