import Tpp.Lemmas.Input
/-!
C07 – no input can crash, hang or permanently confuse the library.  Input-decoder half: the theorems `C07_input_*`
(the attribute-markup half is `Props/C07Markup.lean`, theorems `C07_markup_*` and `C07_handler_*`).

What a theorem about the model can carry:
* termination – every function of `Tpp.Model.Parser` / `Tpp.Model.Keys` is a total Lean function, one byte is
  consumed per step (`PState.feed`), the delivery loop is structural recursion over the chunk;
* resynchronisation – four letters bring ANY state (control state and scratch) back to idle (`C07_input_resync`,
  `C07_input_recovers`);
* an idle decoder is as good as a new one – the scratch members are dead in the idle state (`C07_input_idle_is_initial`);
* the guard of `seq.arguments[0]` – every control sequence the decoder emits has at least one argument
  (`C07_input_arguments_nonempty`).
Freedom from undefined behaviour of the compiled C++ is supported (not proved) by running every stream of the
correspondence under ASan+UBSan; see `vlib/props/C07.py`.
-/
namespace Tpp.Props.C07
open Tpp.Ref

/-- after any input whatsoever (any control state, any scratch), a run of four letters leaves the decoder idle -/
theorem C07_input_resync (st : PState) (ls : List Byte) (h4 : ls.length = 4) (hl : ∀ b ∈ ls, isLetter b = true) :
    (feedAll ls st).ctl = .idle := resync st ls (Nat.le_of_eq h4.symm) hl

/-- four is needed: three letters do not always suffice (an unfinished mouse report) -/
theorem C07_input_resync_three_insufficient :
    ∃ st : PState, isLetter 0x4D = true ∧ isLetter 0x41 = true ∧
      (feedAll [0x4D, 0x41, 0x41] (feedAll [0x1B, 0x5B] st)).ctl ≠ .idle :=
  ⟨PState.init, by decide +kernel⟩

/-- two idle decoders with different scratch members decode every stream identically: an idle decoder
    behaves as the initial one -/
theorem C07_input_idle_is_initial (s1 s2 : PState) (h1 : s1.ctl = .idle) (h2 : s2.ctl = .idle) (bs : List Byte) :
    tokens s1 bs = tokens s2 bs := by
  rw [tokens, (sim_feedAll bs s1 s2 (by simp [Sim, h1, h2])).1]; rfl

/-- … and chunk by chunk for what the callbacks receive, for any two states that differ in dead scratch members only
    (`Sim`; in particular two idle ones) -/
theorem C07_input_idle_is_initial_deliveries (chunks : List (List Byte)) :
    ∀ s1 s2 : PState, Sim s1 s2 → (deliverAll chunks s1).tokenLists = (deliverAll chunks s2).tokenLists := by
  induction chunks with
  | nil => intros; rfl
  | cons c cs ih =>
    intro s1 s2 h
    obtain ⟨ht, hs⟩ := sim_feedAll c s1 s2 h
    simp only [deliverAll_cons, tokens, ht, ih _ _ hs]

/-- the statement of the property: after ANY input, four letters, and then any further input is decoded as by a
    fresh terminal -/
theorem C07_input_recovers (st : PState) (garbage ls suffix : List Byte) (h4 : ls.length = 4)
    (hl : ∀ b ∈ ls, isLetter b = true) :
    tokens (feedAll (garbage ++ ls) st) suffix = tokens PState.init suffix := by
  rw [feedAll_append]
  exact C07_input_idle_is_initial _ _ (C07_input_resync _ ls h4 hl) rfl suffix

/-- every control sequence the decoder emits – as a token of its own or as the `sequence` of a key – has at
    least one argument, from any state on any input: `seq.arguments[0]` in `convert_keypad_sequence` is in
    bounds and the `arguments.empty()` guard in `convert_control_sequence` never fires -/
theorem C07_input_arguments_nonempty (st : PState) (bs : List Byte) (t : Token) (ht : t ∈ tokens st bs) :
    match t with
    | .ctrl c => c.args ≠ []
    | .key k => (match k.seq with | .ctrl c => c.args ≠ [] | .byte _ => True)
    | .mouse _ _ _ => True := by
  -- every sequence a token carries is some `s.seq x`, whose arguments end in `[s.arg]`
  have h : ∀ c, t.seq? = some c → c.args ≠ [] := fun c hc =>
    let ⟨⟨s, x, h⟩, _⟩ := tokens_seq? ht hc
    h ▸ s.seq_args_ne_nil x
  cases t with
  | ctrl c => exact h c rfl
  | key k =>
    -- the outer `match` on the token has reduced
    show match k.seq with | .ctrl c => c.args ≠ [] | .byte _ => True
    cases hk : k.seq with
    | ctrl c => exact h c (by simp only [Token.seq?, hk])
    | byte => trivial
  | mouse => trivial

-- non-vacuity: letters exist, non-idle states with scratch exist, and a decoded control sequence has an argument
example : ∃ ls : List Byte, ls.length = 4 ∧ (∀ b ∈ ls, isLetter b = true) ∧
    (feedAll [0x1B, 0x5B, 0x31, 0x3B, 0x4D, 0x20] PState.init).ctl = .mouse1 ∧
    (feedAll ls (feedAll [0x1B, 0x5B, 0x31, 0x3B, 0x4D, 0x20] PState.init)).ctl = .idle :=
  -- trap: `decide` on `∀ b ∈ ls, …` over bytes picks the 256-byte instance of `Tpp.Basic`
  ⟨[0x4D, 0x5A, 0x61, 0x7A], rfl,
    by simp only [List.forall_mem_cons, List.not_mem_nil, false_imp_iff, implies_true, and_true]; decide,
    by decide +kernel⟩
example : ∃ s1 s2 : PState, s1.ctl = .idle ∧ s2.ctl = .idle ∧ s1.metaFlag ≠ s2.metaFlag ∧ s1.args ≠ s2.args :=
  ⟨{ metaFlag := true, args := [[0x31]] }, {}, by simp⟩
example : Token.ctrl { initiator := 0x5B, command := 0x6D, args := [[]] } ∈ tokens PState.init [0x1B, 0x5B, 0x6D] := by
  decide +kernel

end Tpp.Props.C07
