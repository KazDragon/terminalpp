import Tpp.Lemmas.Faithful
/-!
C20 – an abstract key (cursor, editing or function key) is reported only for input that encodes that key.

Every `virtual_key` carries its origin in `sequence` (the raw byte, or the parsed `control_sequence`), so the statement
needs no byte spans: the sequence a key token carries must designate that key in the xterm tables (`Ref.designates`).

* `C20_full` is the property as stated; it is FALSE of the code (`C20_counterexample`, `C20_counterexample_stream`):
  `parse_idle` casts the input byte to `vk`, and the enumeration continues above 0x7F with the abstract keys, so the 22
  bytes 0x80–0x96 other than 0x8F (SS3) are reported as `cursor_up … f12` (`C20_colliding_set`; recorded as known findings,
  one per byte).
* `C20_partial` is what holds: the same statement with exactly that set of raw bytes excluded, for parameters of any size
  – `argument_to_integer` clamps, and a clamped parameter names no key (`C20_large_parameter_names_no_key`).
* `C20_faithful`, `C20_faithful_ctrl`: the control sequence a token carries (when it has no private marker) was sent.
  With `C20_partial`: a key is reported only where the stream contains a control sequence that encodes it.
-/
namespace Tpp.Props.C20
open Tpp.Ref

/-- the key value an ordinary byte must be reported as -/
def plainKey (b : Byte) : Token := .key { key := b.toNat, mods := 0, rep := 1, seq := .byte b }

/-- FULL STATEMENT.  (1) For every stream fed to an idle decoder, a token naming an abstract key has a
    `sequence` that designates that key (`Ref.designates`) or is a line ending (Enter with sequence `'\n'`).
    (2) A single ordinary byte in the idle state is reported as the key whose value is that byte, and that key
    is not an abstract one. -/
def C20_full : Prop :=
  (∀ (st : PState), st.ctl = .idle → ∀ (bs : List Byte) (k : VKey), Token.key k ∈ tokens st bs →
      isAbstractKey k.key = true →
      (∃ c, k.seq = .ctrl c ∧ designates c k.key = true) ∨ (k.key = Consts.vk_enter ∧ k.seq = .byte 0x0A))
  ∧ (∀ (st : PState), st.ctl = .idle → ∀ b : Byte, isOrdinary b = true →
      tokens st [b] = [plainKey b] ∧ isAbstractKey b.toNat = false)

/-- the raw bytes that collide with the abstract keys of the `vk` enumeration -/
def collides (b : Byte) : Bool := 0x80 ≤ b && b ≤ 0x96 && b != 0x8F

/-- `vk_del < n ≤ vk_f12` is the byte range 0x80–0x96, of which only 0x8F (SS3) is not an ordinary byte -/
theorem abstract_iff_collides (b : Byte) (hb : isOrdinary b = true) :
    isAbstractKey b.toNat = true ↔ collides b = true := by
  simp only [isAbstractKey, collides, Bool.and_eq_true, decide_eq_true_eq, bne_iff_ne, UInt8.le_iff_toNat_le,
    UInt8.toNat_ofNat, (isOrdinary_iff.1 hb).2.2.2.2, ne_eq, not_false_eq_true, and_true, Consts.vk_del, Consts.vk_f12]
  omega

/-- PROVED PART.  Every abstract-key token has a designating sequence, or is a line ending, or carries a raw
    byte from exactly the colliding set (and then names the key whose enumerator value is that byte) – for
    parameters of ANY size.  A single ordinary byte is always reported as the key of that value; that key is
    abstract exactly for the colliding bytes. -/
theorem C20_partial :
    (∀ (st : PState), st.ctl = .idle → ∀ (bs : List Byte) (k : VKey), Token.key k ∈ tokens st bs →
      isAbstractKey k.key = true →
      (∃ c, k.seq = .ctrl c ∧ designates c k.key = true)
      ∨ (k.key = Consts.vk_enter ∧ k.seq = .byte 0x0A)
      ∨ (∃ b : Byte, k.seq = .byte b ∧ collides b = true ∧ k.key = b.toNat))
    ∧ (∀ (st : PState), st.ctl = .idle → ∀ b : Byte, isOrdinary b = true →
      tokens st [b] = [plainKey b] ∧ (isAbstractKey b.toNat = true ↔ collides b = true)) := by
  constructor
  · intro st hidle bs k hmem habs
    obtain ⟨raw, hraw, hwk⟩ := List.mem_map.mp hmem
    have hok := rawTokens_ok bs st (by simp [ArgInv, hidle]) raw hraw
    cases raw with
    | key k' =>
      cases hwk
      rcases hok with rfl | ⟨b, rfl, hb⟩
      · exact .inr (.inl ⟨rfl, rfl⟩)
      · exact .inr (.inr ⟨b, rfl, (abstract_iff_collides b hb).mp habs, rfl⟩)
    | mouse ev x y => cases hwk
    | ctrl c =>
      obtain ⟨hseq, hd⟩ := convertCommon_key c k hok hwk
      exact .inl ⟨c, hseq, hd⟩
  · intro st hidle b hb
    exact ⟨(tokens_ordinary st b hidle hb).1, abstract_iff_collides b hb⟩

/-- Faithfulness to the input (for every stream whatsoever, from an idle decoder with arbitrary scratch): the control
    sequence an abstract-key token carries – when it has no private marker – was actually SENT: its spelling (meta ESC if
    flagged, 7-bit introducer or the 8-bit one for CSI / SS3, the parameters separated by `;`, the final byte) occurs
    contiguously in the bytes that were fed. -/
theorem C20_faithful (st : PState) (hidle : st.ctl = .idle) (bs : List Byte) (k : VKey) (c : CtrlSeq)
    (hmem : Token.key k ∈ tokens st bs) (hs : k.seq = .ctrl c) (he : c.extender = 0) :
    ∃ r ∈ renderings c, r <:+: bs :=
  faithful_tokens hidle hmem (by simp only [Token.seq?, hs]) he

/-- the same for the control sequences reported as such -/
theorem C20_faithful_ctrl (st : PState) (hidle : st.ctl = .idle) (bs : List Byte) (c : CtrlSeq)
    (hmem : Token.ctrl c ∈ tokens st bs) (he : c.extender = 0) :
    ∃ r ∈ renderings c, r <:+: bs :=
  faithful_tokens hidle hmem rfl he

/-- a meta shift-F5 as the decoder reports it -/
def metaShiftF5 : CtrlSeq :=
  { initiator := 0x5B, command := 0x7E, metaFlag := true, args := [[0x31, 0x35], [0x32]], extender := 0 }

-- non-vacuity: that key in the middle of text – and its spelling is where it was sent
example : Token.key { key := Consts.vk_f5, mods := Consts.vkmod_shift ||| Consts.vkmod_meta, rep := 1, seq := .ctrl metaShiftF5 }
      ∈ tokens PState.init [0x61, 0x1B, 0x1B, 0x5B, 0x31, 0x35, 0x3B, 0x32, 0x7E, 0x62]
    ∧ [0x1B, 0x1B, 0x5B, 0x31, 0x35, 0x3B, 0x32, 0x7E] ∈ renderings metaShiftF5 := by
  decide +kernel

/-- the full statement fails of the code: the single byte 0x80 (a UTF-8 continuation byte, e.g. the
    second byte of `Ā` = C4 80) is reported as `cursor_up` -/
theorem C20_counterexample : ¬ C20_full :=
  fun h => absurd (h.2 PState.init rfl 0x80 (by decide)).2 (by decide)

/-- … and a witness against part (1) on its own: an abstract-key token whose sequence is the byte 0x80 – neither a control
    sequence that designates the key nor a line ending -/
theorem C20_counterexample_stream :
    Token.key { key := Consts.vk_cursor_up, mods := 0, rep := 1, seq := .byte 0x80 } ∈ tokens PState.init [0xC4, 0x80]
    ∧ isAbstractKey Consts.vk_cursor_up = true := by decide +kernel

/-- a parameter that does not fit an `int` names no key: `ESC [ 4294967307 ~` (4294967307 ≡ 11 mod 2^32, and 11 is F1:
    the value a wrapping conversion would pick) is handed to the client as a plain control sequence -/
theorem C20_large_parameter_names_no_key :
    tokens PState.init [0x1B, 0x5B, 0x34, 0x32, 0x39, 0x34, 0x39, 0x36, 0x37, 0x33, 0x30, 0x37, 0x7E]
      = [.ctrl { initiator := 0x5B, command := 0x7E, metaFlag := false,
                 args := [[0x34, 0x32, 0x39, 0x34, 0x39, 0x36, 0x37, 0x33, 0x30, 0x37]], extender := 0 }]
    ∧ designates { initiator := 0x5B, command := 0x7E, metaFlag := false,
                   args := [[0x34, 0x32, 0x39, 0x34, 0x39, 0x36, 0x37, 0x33, 0x30, 0x37]], extender := 0 } Consts.vk_f1 = false := by
  decide +kernel

/-- the colliding set is exactly the 22 bytes 0x80–0x96 without 0x8F -/
theorem C20_colliding_set : ((List.range 256).filter fun n => collides (UInt8.ofNat n)).length = 22 := by decide +kernel

-- non-vacuity: a designated key, a line ending, an ordinary byte
example : designates { initiator := 0x5B, command := 0x7E, args := [[0x32, 0x34], [0x35]] } Consts.vk_f12 = true
    ∧ designates { initiator := 0x4F, command := 0x50, args := [[]] } Consts.vk_f1 = true
    ∧ designates { initiator := 0x5B, command := 0x41, extender := 0x3F, args := [[0x35], [0x32], [0x37]] } Consts.vk_cursor_up = true
    ∧ designates { initiator := 0x5B, command := 0x7E, args := [[0x31, 0x36]] } Consts.vk_f5 = false
    ∧ isOrdinary 0x61 = true ∧ isOrdinary 0xE9 = true ∧ isOrdinary 0x9B = false
    ∧ isAbstractKey Consts.vk_enter = true ∧ isAbstractKey 0x61 = false := by decide +kernel
example :
    Token.key { key := Consts.vk_home, mods := 0, rep := 1, seq := .ctrl { initiator := 0x5B, command := 0x48, args := [[]] } }
      ∈ tokens PState.init [0x9B, 0x48] := by
  decide +kernel

end Tpp.Props.C20
