import Tpp.Model.Encoder
import Tpp.Model.Printers
/-!
C19 – 256-colour indices are a bijection onto their palette ranges.
Over the offset and coefficients regenerated from `ansi/graphics.hpp`, in the C++ arithmetic
(int evaluation, truncation to byte).  The quantifier domain (216 triples, 24 shades) is finite: the index
formula, the component functions and the 24 shades are evaluated over all of it by the kernel; range,
injectivity, surjectivity and the streamed form of the cube follow (with two six-entry tables).
-/
namespace Tpp.Props.C19

abbrev b6 (i : Fin 6) : Byte := UInt8.ofNat i.val
abbrev b24 (i : Fin 24) : Byte := UInt8.ofNat i.val

/-- every high colour built from components in 0..5 has palette index 16 + 36r + 6g + b -/
theorem C19_index : ∀ r g b : Fin 6, (encodeHigh (b6 r) (b6 g) (b6 b)).toNat = 16 + 36 * r.val + 6 * g.val + b.val := by
  decide +kernel

/-- … which lies in 16..231 -/
theorem C19_range : ∀ r g b : Fin 6, 16 ≤ (encodeHigh (b6 r) (b6 g) (b6 b)).toNat ∧ (encodeHigh (b6 r) (b6 g) (b6 b)).toNat ≤ 231 := by
  intro r g b; rw [C19_index]; omega

/-- the components recovered from the index are the original ones -/
theorem C19_components_roundtrip : ∀ r g b : Fin 6,
    highRed (encodeHigh (b6 r) (b6 g) (b6 b)) = b6 r ∧
    highGreen (encodeHigh (b6 r) (b6 g) (b6 b)) = b6 g ∧
    highBlue (encodeHigh (b6 r) (b6 g) (b6 b)) = b6 b := by
  decide +kernel

/-- distinct triples give distinct indices -/
theorem C19_injective (r g b r' g' b' : Fin 6)
    (h : encodeHigh (b6 r) (b6 g) (b6 b) = encodeHigh (b6 r') (b6 g') (b6 b')) : r = r' ∧ g = g' ∧ b = b' := by
  have h1 := C19_components_roundtrip r g b
  have h2 := C19_components_roundtrip r' g' b'
  rw [h] at h1
  obtain ⟨a1, a2, a3⟩ := h1
  obtain ⟨c1, c2, c3⟩ := h2
  have inj : ∀ i j : Fin 6, b6 i = b6 j → i = j := by decide +kernel
  exact ⟨inj _ _ (a1.symm.trans c1), inj _ _ (a2.symm.trans c2), inj _ _ (a3.symm.trans c3)⟩

/-- every index in 16..231 is hit (so the map is onto its range) -/
theorem C19_surjective : ∀ v : Byte, 16 ≤ v.toNat → v.toNat ≤ 231 →
    ∃ r g b : Fin 6, encodeHigh (b6 r) (b6 g) (b6 b) = v := by
  intro v h1 h2
  -- base-6 digits of `v - 16`
  refine ⟨⟨(v.toNat - 16) / 6 / 6, by omega⟩, ⟨(v.toNat - 16) / 6 % 6, by omega⟩, ⟨(v.toNat - 16) % 6, by omega⟩, ?_⟩
  rw [← UInt8.toNat_inj, C19_index]
  simp only []   -- `Fin.val ⟨n, _⟩` to `n`
  omega

/-- every greyscale shade 0..23 maps to 232 + shade and back -/
theorem C19_grey : ∀ s : Fin 24, (encodeGrey (b24 s)).toNat = 232 + s.val ∧ greyComponent (encodeGrey (b24 s)) = b24 s := by
  decide +kernel

/-- the SGR parameter text transmitted for such a colour is `38;5;index` / `48;5;index` -/
theorem C19_wire_high (r g b : Fin 6) :
    fgParams (Colour.ofHigh (b6 r) (b6 g) (b6 b)) = [38, 5, 16 + 36 * r.val + 6 * g.val + b.val] ∧
    bgParams (Colour.ofHigh (b6 r) (b6 g) (b6 b)) = [48, 5, 16 + 36 * r.val + 6 * g.val + b.val] := by
  simp [Colour.ofHigh, fgParams, bgParams, C19_index]

/-- likewise for a shade -/
theorem C19_wire_grey (s : Fin 24) :
    fgParams (Colour.ofGrey (b24 s)) = [38, 5, 232 + s.val] ∧ bgParams (Colour.ofGrey (b24 s)) = [48, 5, 232 + s.val] := by
  simp [Colour.ofGrey, fgParams, bgParams, (C19_grey s).1]

/-- the streamed form (`out << colour`) of a palette colour shows its components / its shade in decimal: `#rgb` and
    `#NN` (the model of the inserters has no stream state: see Model/Printers.lean) -/
theorem C19_streamed :
    (∀ r g b : Fin 6, showHighColour (encodeHigh (b6 r) (b6 g) (b6 b))
        = [0x23, UInt8.ofNat (48 + r.val), UInt8.ofNat (48 + g.val), UInt8.ofNat (48 + b.val)]) ∧
    (∀ s : Fin 24, showGreyColour (encodeGrey (b24 s)) = [0x23, UInt8.ofNat (48 + s.val / 10), UInt8.ofNat (48 + s.val % 10)]) := by
  refine ⟨fun r g b => ?_, by decide +kernel⟩
  have digit : ∀ i : Fin 6, decDigits (b6 i).toNat = [UInt8.ofNat (48 + i.val)] := by decide +kernel
  obtain ⟨hr, hg, hb⟩ := C19_components_roundtrip r g b
  rw [showHighColour, hr, hg, hb, digit, digit, digit]
  rfl

-- non-vacuity / sanity: the last cube entry and the last shade
example : encodeHigh 5 5 5 = 231 ∧ encodeGrey 23 = 255 ∧ highGreen 231 = 5 := by decide +kernel

end Tpp.Props.C19
