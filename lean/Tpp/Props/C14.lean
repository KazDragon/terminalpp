import Tpp.Model.Channel
/-!
C14 – the stdout channel delivers every byte to standard output, unchanged, in order.

The model-level statements are small; the content of this property is the tie (a child process whose
terminal is bound to the real `terminalpp::stdout_channel`, its standard output read to EOF and compared
with the capturing channel and with the model).  Process-exit flushing and the iostream layer are
runtime behaviour the model cannot exhibit: level *partial*.
-/
namespace Tpp.Props.C14

/-- every byte of every write reaches standard output, unchanged and in order – for arbitrary content
    (NUL, bytes above 0x7F) and arbitrary sizes, including empty writes -/
theorem C14_stdout (writes : List (List Byte)) :
    writes.foldl stdoutSink.write stdoutSink.init = writes.flatten := by
  simpa [stdoutSink] using List.foldl_append_eq_append (l := writes) (f := id) (l' := [])

/-- the stdout channel's output equals the output captured by the buffering channel, for the same operations (the two
    model sinks are the same function, so this holds by definition) -/
theorem C14_channel_parametric (beh : Behaviour) (s : TermState) (ops : List Op) :
    runOn stdoutSink beh s ops = runOn bufferSink beh s ops := rfl

/-- … and both equal the concatenation of the operations' outputs -/
theorem C14_equals_run (beh : Behaviour) (ops : List Op) :
    ∀ s : TermState, runOn stdoutSink beh s ops = (run beh s ops).2 := by
  intro s
  rw [runOn, C14_stdout]
  induction ops generalizing s with
  | nil => rfl
  | cons op ops ih => simp only [writesOf, List.flatten_cons, run, ih]

example : [[0x00, 0xFF], [], [0x1B]].foldl stdoutSink.write stdoutSink.init = ([0x00, 0xFF, 0x1B] : List Byte) := by decide

end Tpp.Props.C14
