import Tpp.Model.Charset
import Tpp.Ref.Designators
/-!
C18 – character-set designators follow the VT standard and round-trip.
All statements are over the tables regenerated from `/repo/include/terminalpp/character_set.hpp`
and `ansi/charset.hpp` on every run.  The table statements (`C18_encode_standard`, the two `C18_only_standard_*`,
`C18_degenerate`, `C18_utf8_fallback`) are decided by kernel evaluation over the complete (finite) quantifier domain:
18 sets, 256 one-byte candidates, 256 `%`-extended candidates; the others follow from them.
-/
namespace Tpp.Props.C18

/-- the designator produced for each designatable set is the standard primary designator -/
theorem C18_encode_standard : ∀ cs : Charset, cs ≠ .utf8 → encodeCharset cs = Ref.primaryDesignator cs := by
  intro cs; cases cs <;> decide +kernel

/-- one-byte candidates: the library recognises exactly the standard designators (aliases included)
    and maps each to the set the standard says; every other byte looks up to nothing -/
theorem C18_only_standard_1byte : ∀ b : Byte, lookupCharset [b] = Ref.scsLookup [b] := by
  decide +kernel

/-- `%`-extended two-byte candidates, likewise -/
theorem C18_only_standard_ext : ∀ b : Byte, lookupCharset [0x25, b] = Ref.scsLookup [0x25, b] := by
  decide +kernel

/-- the two shapes of a designator: one byte other than `%`, or `%` and one byte -/
def designatorShaped (l : List Byte) : Bool :=
  match l with
  | [b] => b != 0x25
  | [a, _] => a == 0x25
  | _ => false

theorem designatorShaped_cases {l : List Byte} (h : designatorShaped l = true) :
    (∃ b, l = [b] ∧ b ≠ 0x25) ∨ ∃ b, l = [0x25, b] := by
  match l, h with
  | [b], h => exact .inl ⟨b, rfl, by simpa [designatorShaped] using h⟩
  | [a, b], h => exact .inr ⟨b, by simpa [designatorShaped] using h⟩

/-- the two sweeps in one statement -/
theorem lookupCharset_of_shaped {l : List Byte} (h : designatorShaped l = true) : lookupCharset l = Ref.scsLookup l := by
  obtain ⟨b, rfl, _⟩ | ⟨b, rfl⟩ := designatorShaped_cases h
  · exact C18_only_standard_1byte b
  · exact C18_only_standard_ext b

/-- specification side only: the library's table is not in it -/
theorem primaryDesignator_spec (cs : Charset) (h : cs ≠ .utf8) :
    designatorShaped (Ref.primaryDesignator cs) = true ∧ Ref.scsLookup (Ref.primaryDesignator cs) = some cs := by
  revert h; cases cs <;> decide +kernel

/-- the designator produced for a set looks up to that set again: `C18_encode_standard`, then the standard's own round trip -/
theorem C18_roundtrip : ∀ cs : Charset, cs ≠ .utf8 → lookupCharset (encodeCharset cs) = some cs := by
  intro cs h
  rw [C18_encode_standard cs h, lookupCharset_of_shaped (primaryDesignator_spec cs h).1]
  exact (primaryDesignator_spec cs h).2

/-- every standard alias looks up to the set it denotes (corollary of `C18_only_standard_1byte`: all six aliases are one byte;
    stated for the alias list itself so it is visible) -/
theorem C18_aliases :
    lookupCharset [0x35] = some .finnish ∧ lookupCharset [0x66] = some .french ∧
    lookupCharset [0x39] = some .frenchCanadian ∧ lookupCharset [0x45] = some .danish ∧
    lookupCharset [0x36] = some .danish ∧ lookupCharset [0x37] = some .swedish :=
  ⟨C18_only_standard_1byte 0x35, C18_only_standard_1byte 0x66, C18_only_standard_1byte 0x39,
   C18_only_standard_1byte 0x45, C18_only_standard_1byte 0x36, C18_only_standard_1byte 0x37⟩

/-- no two sets share a designator -/
theorem C18_no_shared_designator : ∀ a b : Charset, a ≠ .utf8 → b ≠ .utf8 →
    encodeCharset a = encodeCharset b → a = b :=
  -- `some a = lookupCharset (encodeCharset a) = lookupCharset (encodeCharset b) = some b`
  fun a b ha hb h => Option.some.inj
    ((C18_roundtrip a ha).symm.trans ((congrArg lookupCharset h).trans (C18_roundtrip b hb)))

/-- the empty code and a lone extender look up to nothing -/
theorem C18_degenerate : lookupCharset [] = none ∧ lookupCharset [0x25] = none := by decide +kernel

/-- UTF-8 has no SCS designator: the library falls back to the US-ASCII one (never sent: `changeCharset` never designates `.utf8`) -/
theorem C18_utf8_fallback : encodeCharset .utf8 = encodeCharset .usAscii := by decide +kernel

-- non-vacuity: the quantifier domains are inhabited by sets with primary and alias designators
example : encodeCharset .danish = [0x60] ∧ lookupCharset [0x45] = some .danish ∧ lookupCharset [0x58] = none := by decide +kernel

end Tpp.Props.C18
