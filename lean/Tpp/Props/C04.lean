import Tpp.Lemmas.DrawFrame
/-!
C04 – `screen.draw` sends only the cells that changed; an unchanged canvas sends nothing.

`changedCell base c p` is the library's own element inequality (`!=`, which ignores unused glyph storage)
between the frame the draw is diffed against (`Screen.base`: the previously drawn canvas, or blanks of the
new size after a size change) and the canvas being drawn.
-/
namespace Tpp.Props.C04

/-- the operations of a draw: an erase exactly when the size changed, then – in `for_each_in_region`
    (row-major) order – one move + one element for each cell whose element differs, and nothing for any other cell -/
theorem C04_ops_exact (scr : ScreenState) (c : Canvas) :
    (Screen.draw scr c).2 =
      (if c.size ≠ scr.last.size then [Op.erase .display] else []) ++
      ((fullRegion c).filter (changedCell (Screen.base scr c) c)).flatMap
        (fun p => [Op.moveCursor ⟨p.1, p.2⟩, Op.writeElement (c.get p.1 p.2)]) :=
  drawOps_eq scr c

/-- drawing the same canvas again writes no bytes at all – from any terminal state -/
theorem C04_same_canvas_silent (beh : Behaviour) (scr : ScreenState) (c : Canvas) (s : TermState) :
    (run beh s (Screen.draw (Screen.draw scr c).1 c).2).2 = [] := by
  rw [drawOps_same]
  rfl

/-- row-major, each cell at most once (the region enumeration has no duplicates): read together with `C04_wire_exact`,
    whose log is a sublist of this enumeration -/
theorem C04_each_once (c : Canvas) : (fullRegion c).Nodup ∧ List.Pairwise Tpp.Lemmas.Canvas.RowMajorLt (fullRegion c) :=
  ⟨Tpp.Lemmas.Canvas.nodup_regionCoords _, Tpp.Lemmas.Canvas.pairwise_regionCoords _⟩

/-- the elements a draw asks the terminal to show are the changed cells' elements, in row-major order -/
theorem drawOps_elements (scr : ScreenState) (c : Canvas) :
    ((Screen.draw scr c).2.map REv.op).flatMap REv.elements
      = ((fullRegion c).filter (changedCell (Screen.base scr c) c)).map (fun p => c.get p.1 p.2) := by
  rw [C04_ops_exact, List.flatMap_map, List.flatMap_append, List.flatMap_assoc, List.map_eq_flatMap]
  -- the erase shows no element; of a pair `[move, write e]` only the write does: `[e]`
  have herase : (if c.size ≠ scr.last.size then [Op.erase .display] else []).flatMap (fun a => (REv.op a).elements) = [] := by
    split <;> rfl
  rw [herase, List.nil_append]
  rfl

/-- **on the wire**: the glyphs the reference terminal receives during one draw are exactly the changed
    cells – each once, in row-major order, at its own position, shown as the canvas's element – and no other;
    on every kind of terminal (no condition on the wrap mode is needed for what is *transmitted*) -/
theorem C04_wire_exact (beh : Behaviour) (scr : ScreenState) (c : Canvas) (s : TermState) (vt : VT)
    (hA : Agree s vt) (hsize : c.size = s.size) (hwf : c.cellsWF) :
    (vt.feedAll (drawRun beh scr c s).2).log
      = vt.log ++ ((fullRegion c).filter (changedCell (Screen.base scr c) c)).map (drawnEntry c) :=
  (draw_run beh scr c s vt hA hsize hwf).2.2.1

/-- **no size needed**: whatever the library believes about sizes and positions (no `set_size`, a canvas larger
    or smaller than the terminal), the glyphs a draw transmits are exactly the changed cells' elements – each once,
    in row-major order, with exactly the requested look – and nothing else is printed.  (WHERE they land is C03's
    business and needs the declared-size protocol.) -/
theorem C04_wire_cells_any_size (beh : Behaviour) (scr : ScreenState) (c : Canvas) (s : TermState) (vt : VT)
    (hA : AgreeRend s vt) (hwf : c.cellsWF) :
    ∃ entries, (vt.feedAll (drawRun beh scr c s).2).log = vt.log ++ entries ∧
      entries.map (·.2.2) = ((fullRegion c).filter (changedCell (Screen.base scr c) c)).map (fun p => cellOf (c.get p.1 p.2)) := by
  obtain ⟨_, entries, hlog, hcells⟩ := agreeRend_run beh ((Screen.draw scr c).2.map REv.op) (s, vt) hA
    (rrunwf_of_all beh _ (drawOps_wfr0 hwf) _)
  rw [RSys.run_ops] at hlog
  refine ⟨entries, hlog, ?_⟩
  rw [hcells, drawOps_elements, List.map_map]
  rfl

-- non-vacuity: a 2x1 canvas whose second cell differs from the blank frame
example : (fullRegion (((Canvas.new ⟨2, 1⟩).set 1 0 { glyph := { b0 := 0x41 } }))).filter
    (changedCell (Canvas.new ⟨2, 1⟩) ((Canvas.new ⟨2, 1⟩).set 1 0 { glyph := { b0 := 0x41 } })) = [(1, 0)] := by decide +kernel

end Tpp.Props.C04
