import Tpp.Lemmas.Step
/-!
C02 – a cursor move puts the next glyph where it was asked, on every kind of terminal.

After ANY in-domain history (writes incl. into the last column, moves, save/restore, erases, resizes) the
belief agrees with the terminal (`agree_run`, C08); from such a state a move to a position inside the
declared size followed by a string that fits on the row lands glyph `i` at `(p.x + i, p.y)` – on terminals
that defer the wrap, wrap immediately, or do not wrap (`vt.wrap` is unconstrained), for every cursor
position the terminal may have had (`Agree` says nothing about the terminal where the belief is unknown).
-/
namespace Tpp.Props.C02

/-- the placement step, from any state in which belief and terminal agree -/
theorem C02_placement_step (beh : Behaviour) (s : TermState) (vt : VT) (hA : Agree s vt) (p : Point)
    (hp : 0 ≤ p.x ∧ p.x < s.size.width ∧ 0 ≤ p.y ∧ p.y < s.size.height)
    (es : List Element) (hes : ∀ e ∈ es, e.wf = true) (hfit : p.x + es.length ≤ s.size.width) :
    let st' := Sys.run beh (s, vt) [.op (.moveCursor p), .op (.writeString es)]
    ∃ entries, st'.2.log = vt.log ++ entries ∧
      entries.map (fun t => (t.1, t.2.1)) = (List.range es.length).map (fun i => (p.x.toNat + i, p.y.toNat)) ∧
      entries.map (·.2.2) = es.map cellOf := by
  intro st'
  have hA1 : Agree (step beh s (.moveCursor p)).1 (vt.feedAll (step beh s (.moveCursor p)).2) :=
    agree_step beh s vt hA (.op (.moveCursor p)) hp
  have hlog1 := log_of_elements_nil beh s vt hA.1 (.moveCursor p) ⟨hp.1, hp.2.2.1⟩ rfl
  -- after the move: write_optional_default_attribute, then the elements
  obtain ⟨hR2, hk2, hl2, _, hC2⟩ := sim_defaultAttr _ _ hA1.1
  obtain ⟨hc2, hs2⟩ := defaultAttr_fields (step beh s (.moveCursor p)).1
  obtain ⟨entries, hent, hpos, hcells⟩ :=
    rawElements_positions beh es _ _ p ⟨hR2, hC2 hA1.2⟩ hc2 hes hk2 (by rw [hs2]; exact hfit)
  refine ⟨entries, ?_, hpos, hcells⟩
  -- `Sys.run` over the two events, unfolded
  show ((vt.feedAll (step beh s (.moveCursor p)).2).feedAll
    (step beh (step beh s (.moveCursor p)).1 (.writeString es)).2).log = _
  rw [step_writeString, VT.feedAll_append, hent, hl2, hlog1]

/-- the property: after any history, on any terminal configuration -/
theorem C02_placement (beh : Behaviour) (st : TermState × VT) (hA : Agree st.1 st.2) (evs : List Ev)
    (hwf : RunWF beh st evs) (p : Point)
    (hp : 0 ≤ p.x ∧ p.x < (Sys.run beh st evs).1.size.width ∧ 0 ≤ p.y ∧ p.y < (Sys.run beh st evs).1.size.height)
    (es : List Element) (hes : ∀ e ∈ es, e.wf = true) (hfit : p.x + es.length ≤ (Sys.run beh st evs).1.size.width) :
    let mid := Sys.run beh st evs
    let fin := Sys.run beh mid [.op (.moveCursor p), .op (.writeString es)]
    ∃ entries, fin.2.log = mid.2.log ++ entries ∧
      entries.map (fun t => (t.1, t.2.1)) = (List.range es.length).map (fun i => (p.x.toNat + i, p.y.toNat)) ∧
      entries.map (·.2.2) = es.map cellOf :=
  C02_placement_step beh _ _ (agree_run beh evs st hA hwf) p hp es hes hfit

/-- writing the last column makes the library forget the position, in all three wrap modes, so the next
    move is an absolute CUP (which also cancels a deferred wrap) -/
theorem C02_after_last_column (beh : Behaviour) (s : TermState) (p q : Point) (e : Element)
    (hc : s.cursor = some p) (hx : p.x + 1 = s.size.width) :
    (step beh (step beh s (.writeElement e)).1 (.moveCursor q)).2 = writeCUP q := by
  show moveCursorBytes (step beh s (.writeElement e)).1.cursor q = _
  rw [writeElement_last_column beh s e p hc hx]; rfl

-- non-vacuity of the hypotheses on `p` and `es`: width 4, height 3, two glyphs from column 2 end exactly in the last column
example : (0:Int) ≤ 2 ∧ (2:Int) < 4 ∧ (0:Int) ≤ 1 ∧ (1:Int) < 3 ∧ (2:Int) + ([({} : Element), {}] : List Element).length ≤ 4 := by decide

end Tpp.Props.C02
