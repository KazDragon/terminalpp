import Tpp.Lemmas.Step
import Tpp.Model.Screen
/-! The cell loop of `screen::draw`: placing one cell, then what the loop transmits (C04) and what the grid shows
afterwards (C03). -/
namespace Tpp

/-- `W × H` is the declared size, `w × h` the terminal's -/
theorem not_last_cell {x y W H : Int} {w h : Nat} (hW : W = w) (hH : H = h) (hx0 : 0 ≤ x) (hx : x < W)
    (hy0 : 0 ≤ y) (hy : y < H) (hn : (W - 1, H - 1) ≠ (x, y)) : x.toNat + 1 < w ∨ y.toNat + 1 < h := by
  have hn : ¬ (x = W - 1 ∧ y = H - 1) := fun ⟨a, b⟩ => hn (by rw [a, b])
  subst hW hH
  obtain ⟨a, rfl⟩ := Int.eq_ofNat_of_zero_le hx0
  obtain ⟨b, rfl⟩ := Int.eq_ofNat_of_zero_le hy0
  rw [Int.toNat_natCast, Int.toNat_natCast]
  omega

/-- move to `p`, write one element: where it lands, what the grid looks like afterwards -/
theorem place_one (beh : Behaviour) (st : TermState × VT) (hA : Agree st.1 st.2) (p : Point)
    (hp : (Op.moveCursor p).WF st.1) (e : Element) (hw : e.wf = true) :
    let st' := Sys.run beh st [.op (.moveCursor p), .op (.writeElement e)]
    Agree st'.1 st'.2 ∧ st'.1.size = st.1.size ∧ st'.2.alt = st.2.alt ∧ st'.2.wrap = st.2.wrap ∧
    st'.2.log = st.2.log ++ [(p.x.toNat, p.y.toNat, cellOf e)] ∧
    ((st.2.wrap ≠ .immediate ∨ (st.1.size.width - 1, st.1.size.height - 1) ≠ (p.x, p.y)) →
      st'.2.cells = setCell st.2.cells st.2.alt p.x.toNat p.y.toNat (cellOf e)) := by
  intro st'
  have hA1 := agree_step beh st.1 st.2 hA (.op (.moveCursor p)) hp
  have hA2 := agree_step beh _ _ hA1 (.op (.writeElement e)) hw
  obtain ⟨g0, u, hf, hcs⟩ := feed_writeElement beh _ _ hA1.1 e hw
  have hcell : cellOf e = ⟨e.glyph.text, if u then .utf8 else g0, rendOf e.attr⟩ := (cell_eq_cellOf _ e rfl hcs).symm
  -- taken before the move is rewritten: afterwards the left side is `st'.2` only up to `feed_moveCursor`
  have hr : st'.2 = _ := hf
  rw [show (Sys.step beh (st.1, st.2) (.op (.moveCursor p))).2 = _ from
    feed_moveCursor st.1 st.2 hA p hp.1 hp.2.1 hp.2.2.1 hp.2.2.2] at hr
  refine ⟨hA2, (advanceCursor_fields _).1.trans (defaultAttr_fields _).2, ?_, ?_, ?_, fun hns => ?_⟩
  · rw [hr, VT.print_alt]
  · rw [hr, VT.print_wrap]
  · rw [hr, VT.print_log_at _ _ rfl, hcell]
  · have hns' : p.x.toNat + 1 < st.2.w ∨ st.2.wrap ≠ .immediate ∨ p.y.toNat + 1 < st.2.h :=
      hns.elim (fun h => .inr (.inl h)) fun h =>
        (not_last_cell hA.2.width hA.2.height hp.1 hp.2.1 hp.2.2.1 hp.2.2.2 h).imp id .inr
    rw [hr, VT.print_cells _ _ rfl hns', hcell]

/-- the library's own `!=` on elements (it ignores unused glyph storage), between the frame a draw is diffed against
    and the canvas drawn -/
def changedCell (base cvs : Canvas) (p : Int × Int) : Bool := !(Element.eq (base.get p.1 p.2) (cvs.get p.1 p.2))

/-- the log entry (position and cell) of the write for coordinate pair `p` -/
def drawnEntry (cvs : Canvas) (p : Int × Int) : Nat × Nat × Cell := (p.1.toNat, p.2.toNat, cellOf (cvs.get p.1 p.2))

theorem changedCell_eq_false {base cvs : Canvas} {x y : Int} :
    changedCell base cvs (x, y) = false ↔ Element.eq (base.get x y) (cvs.get x y) = true := by
  simp [changedCell]

theorem flatMap_cellOps (base cvs : Canvas) (ps : List (Int × Int)) :
    ps.flatMap (Screen.cellOps base cvs) = (ps.filter (changedCell base cvs)).flatMap
      fun p => [Op.moveCursor ⟨p.1, p.2⟩, Op.writeElement (cvs.get p.1 p.2)] := by
  induction ps with
  | nil => rfl
  | cons p ps ih =>
    rw [List.flatMap_cons, List.filter_cons, ih, Screen.cellOps, changedCell]
    cases Element.eq (base.get p.1 p.2) (cvs.get p.1 p.2) <;> rfl

/-- the grid with the logged glyphs `es` put into buffer `alt`, oldest first -/
def replay (alt : Bool) (es : List (Nat × Nat × Cell)) (g : Bool → Grid) : Bool → Grid :=
  es.foldl (fun g en => setCell g alt en.1 en.2.1 en.2.2) g

/-- the value written depends only on the position, so which of several writes to a cell is the last does not matter -/
theorem replay_drawn (cvs : Canvas) (alt : Bool) (qs : List (Int × Int)) (hq : ∀ p ∈ qs, 0 ≤ p.1 ∧ 0 ≤ p.2)
    (g : Bool → Grid) (b : Bool) (x y : Nat) :
    replay alt (qs.map (drawnEntry cvs)) g b x y =
      if b = alt ∧ ∃ p ∈ qs, p.1.toNat = x ∧ p.2.toNat = y then cellOf (cvs.get x y) else g b x y := by
  induction qs generalizing g with
  | nil => simp [replay]
  | cons p qs ih =>
    obtain ⟨hp1, hp2⟩ := hq p List.mem_cons_self
    rw [List.map_cons, replay, List.foldl_cons, ← replay, ih (fun q hq' => hq q (List.mem_cons_of_mem _ hq'))]
    by_cases hE : b = alt ∧ ∃ q ∈ qs, q.1.toNat = x ∧ q.2.toNat = y
    · rw [if_pos hE, if_pos ⟨hE.1, hE.2.imp fun q h => ⟨List.mem_cons_of_mem _ h.1, h.2⟩⟩]
    · rw [if_neg hE, setCell]
      show (if b = alt ∧ x = p.1.toNat ∧ y = p.2.toNat then cellOf (cvs.get p.1 p.2) else g b x y) = _
      by_cases hP : b = alt ∧ x = p.1.toNat ∧ y = p.2.toNat
      · rw [if_pos hP, if_pos ⟨hP.1, p, List.mem_cons_self, hP.2.1.symm, hP.2.2.symm⟩]
        rw [hP.2.1, hP.2.2, Int.toNat_of_nonneg hp1, Int.toNat_of_nonneg hp2]
      · rw [if_neg hP, if_neg]
        rintro ⟨hb, q, hq', hx, hy⟩
        rcases List.mem_cons.mp hq' with rfl | hq'
        · exact hP ⟨hb, hx.symm, hy.symm⟩
        · exact hE ⟨hb, q, hq', hx, hy⟩

/-- what the writes of cells `qs` of `cvs` do between `st` and `st'`.  `VT.place` logs a glyph and sets its cell in one
    step, so as long as nothing scrolls the grid is the replay of the new log entries -/
structure Drawn (cvs : Canvas) (qs : List (Int × Int)) (st st' : TermState × VT) : Prop where
  agree : Agree st'.1 st'.2
  size : st'.1.size = st.1.size
  alt : st'.2.alt = st.2.alt
  wrap : st'.2.wrap = st.2.wrap
  log : st'.2.log = st.2.log ++ qs.map (drawnEntry cvs)
  cells : (st.2.wrap ≠ .immediate ∨ (st.1.size.width - 1, st.1.size.height - 1) ∉ qs) →
    st'.2.cells = replay st.2.alt (qs.map (drawnEntry cvs)) st.2.cells

theorem Drawn.wh {cvs : Canvas} {qs : List (Int × Int)} {st st' : TermState × VT} (h : Drawn cvs qs st st')
    (hA : Agree st.1 st.2) : st'.2.w = st.2.w ∧ st'.2.h = st.2.h :=
  ⟨Int.ofNat_inj.mp (h.agree.2.width.symm.trans ((congrArg Extent.width h.size).trans hA.2.width)),
    Int.ofNat_inj.mp (h.agree.2.height.symm.trans ((congrArg Extent.height h.size).trans hA.2.height))⟩

theorem draw_cells (beh : Behaviour) (cvs : Canvas) (qs : List (Int × Int)) :
    ∀ st : TermState × VT, Agree st.1 st.2 →
      (∀ p ∈ qs, (Op.moveCursor ⟨p.1, p.2⟩).WF st.1 ∧ (cvs.get p.1 p.2).wf = true) →
      Drawn cvs qs st (Sys.run beh st
        ((qs.flatMap fun p => [Op.moveCursor ⟨p.1, p.2⟩, Op.writeElement (cvs.get p.1 p.2)]).map Ev.op)) := by
  induction qs with
  | nil => intro st hA _; exact ⟨hA, rfl, rfl, rfl, (List.append_nil _).symm, fun _ => rfl⟩
  | cons p qs ih =>
    intro st hA hq
    obtain ⟨hp, hw⟩ := hq p List.mem_cons_self
    obtain ⟨j1, j2, j3, j4, j5, j6⟩ := place_one beh st hA ⟨p.1, p.2⟩ hp (cvs.get p.1 p.2) hw
    rw [List.flatMap_cons, List.map_append, Sys.run_append, List.map_cons, List.map_cons, List.map_nil]
    generalize Sys.run beh st _ = st1 at j1 j2 j3 j4 j5 j6 ⊢
    have i := ih st1 j1 fun q hq' => by rw [Op.WF, j2]; exact hq q (List.mem_cons_of_mem _ hq')
    refine ⟨i.agree, i.size.trans j2, i.alt.trans j3, i.wrap.trans j4, ?_, fun hns => ?_⟩
    · rw [i.log, j5, List.append_assoc]; rfl
    · rw [i.cells (by rw [j4, j2]; exact hns.imp id fun h hm => h (List.mem_cons_of_mem _ hm)), j3,
        j6 (hns.imp id fun h e => h (e ▸ List.mem_cons_self))]
      rfl

theorem draw_changed (beh : Behaviour) (base cvs : Canvas) (ps : List (Int × Int)) (st : TermState × VT)
    (hA : Agree st.1 st.2) (hb : ∀ p ∈ ps, 0 ≤ p.1 ∧ p.1 < st.1.size.width ∧ 0 ≤ p.2 ∧ p.2 < st.1.size.height)
    (hw : ∀ p ∈ ps, (cvs.get p.1 p.2).wf = true) :
    Drawn cvs (ps.filter (changedCell base cvs)) st
      (Sys.run beh st ((ps.flatMap (Screen.cellOps base cvs)).map Ev.op)) := by
  rw [flatMap_cellOps]
  exact draw_cells beh cvs _ st hA fun p hp => ⟨hb p (List.mem_filter.mp hp).1, hw p (List.mem_filter.mp hp).1⟩

theorem toNat_pred_succ {W : Int} {w : Nat} (hW : W = w) (h0 : 0 ≤ W - 1) : (W - 1).toNat + 1 = w :=
  Int.ofNat_inj.mp (by rw [Int.natCast_add, Int.toNat_of_nonneg h0, Int.natCast_one, Int.sub_add_cancel, hW])

/-- the cell loop of `screen::draw`: what it logs (C04) and what the grid holds afterwards (C03) -/
theorem draw_loop (beh : Behaviour) (base cvs : Canvas) (ps : List (Int × Int)) :
    ∀ (s : TermState) (vt : VT), Agree s vt →
      (∀ p ∈ ps, 0 ≤ p.1 ∧ p.1 < s.size.width ∧ 0 ≤ p.2 ∧ p.2 < s.size.height) →
      (∀ p ∈ ps, (cvs.get p.1 p.2).wf = true) →
      Agree (run beh s (ps.flatMap (Screen.cellOps base cvs))).1 (vt.feedAll (run beh s (ps.flatMap (Screen.cellOps base cvs))).2) ∧
      (run beh s (ps.flatMap (Screen.cellOps base cvs))).1.size = s.size ∧
      (vt.feedAll (run beh s (ps.flatMap (Screen.cellOps base cvs))).2).alt = vt.alt ∧
      (vt.feedAll (run beh s (ps.flatMap (Screen.cellOps base cvs))).2).wrap = vt.wrap ∧
      (vt.feedAll (run beh s (ps.flatMap (Screen.cellOps base cvs))).2).log
        = vt.log ++ (ps.filter (changedCell base cvs)).map (drawnEntry cvs) ∧
      ((vt.wrap ≠ .immediate ∨ ∀ p ∈ ps, changedCell base cvs p = true → ¬ (p.1.toNat + 1 = vt.w ∧ p.2.toNat + 1 = vt.h)) →
        ∀ (b : Bool) (x y : Nat),
          (vt.feedAll (run beh s (ps.flatMap (Screen.cellOps base cvs))).2).cells b x y =
            if b = vt.alt ∧ ∃ p ∈ ps, changedCell base cvs p = true ∧ p.1.toNat = x ∧ p.2.toNat = y
            then cellOf (cvs.get x y) else vt.cells b x y) := by
  intro s vt hA hb hw
  have hd := draw_changed beh base cvs ps (s, vt) hA hb hw
  rw [sys_run_ops] at hd
  refine ⟨hd.agree, hd.size, hd.alt, hd.wrap, hd.log, fun hns b x y => ?_⟩
  have hq := fun p (hp : p ∈ ps.filter (changedCell base cvs)) => List.mem_filter.mp hp
  rw [hd.cells (hns.imp id fun h hm => ?_), replay_drawn cvs _ _ fun p hp => ⟨(hb p (hq p hp).1).1, (hb p (hq p hp).1).2.2.1⟩]
  · simp only [List.mem_filter, and_assoc]
  · -- the terminal's last column and row are the declared size's
    exact h _ (hq _ hm).1 (hq _ hm).2
      ⟨toNat_pred_succ hA.2.width (hb _ (hq _ hm).1).1, toNat_pred_succ hA.2.height (hb _ (hq _ hm).1).2.2.1⟩

end Tpp
