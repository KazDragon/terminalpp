import Tpp.Lemmas.Control
import Tpp.Lemmas.Print
import Tpp.Ref.Sys
/-!
The simulation step.  `sim_op` says once what the output-side properties need about one operation: the rendition half of
the agreement is kept, the log grows by exactly the cells asked for, the modes change as `modesAfter` says – none of which
needs sizes or positions – and the cursor half is kept when it held and the operation respects the declared size.
`sim_run` does the same for a history; the step and run lemmas the properties quote are its fields.  Where a property
speaks of cells or positions it quotes the exact terminal instead (`feed_writeElement`, `feed_eraseOp`,
`rawElements_positions`).
-/
namespace Tpp

/-- the elements an event asks the terminal to show -/
def Op.elements : Op → List Element
  | .writeElement e => [e]
  | .writeString es => es
  | .rawElement e => [e]
  | _ => []
def Ev.elements : Ev → List Element
  | .op o => o.elements
  | .resize _ _ _ _ _ _ _ => []

structure VT.Modes where
  vis : Bool
  alt : Bool
  m1000 : Bool
  m1003 : Bool
  title : List Byte
deriving DecidableEq, Repr

def VT.modes (vt : VT) : VT.Modes := ⟨vt.cursorVisible, vt.alt, vt.mouse1000, vt.mouse1003, vt.title⟩

/-- what an event does to the terminal's modes: the specification `step_modes` is proved against.  Basic mouse tracking wins
    over all-motion tracking, as in `enable_mouse`; a hide / show that is elided because the library believes it in effect
    has the same row (`sim_op` shows that the belief is then true) -/
def modesAfter (beh : Behaviour) (m : VT.Modes) : Ev → VT.Modes
  | .op .hideCursor => { m with vis := false }
  | .op .showCursor => { m with vis := true }
  | .op .normalBuffer => { m with alt := false }
  | .op .altBuffer => { m with alt := true }
  | .op .enableMouse => if beh.basicMouse then { m with m1000 := true } else if beh.allMouse then { m with m1003 := true } else m
  | .op .disableMouse => if beh.basicMouse then { m with m1000 := false } else if beh.allMouse then { m with m1003 := false } else m
  | .op (.setTitle t) => if beh.titleBel || beh.titleSt then { m with title := t } else m
  | _ => m

/-- domain of the rendition-only statements: NO condition relating positions to sizes (`Op.WF` with the bounds of
    `moveCursor` dropped and `setSize` allowed) -/
def Op.WFR (s : TermState) : Op → Prop
  | .writeElement e => e.wf = true
  | .writeString es => ∀ e ∈ es, e.wf = true
  | .rawElement e => e.wf = true ∧ s.last.isSome = true
  | .moveCursor p => 0 ≤ p.x ∧ 0 ≤ p.y
  | .setTitle t => titleClean t = true
  | .rawWrite _ => False
  | _ => True

theorem Op.WF.wfr {s : TermState} {o : Op} (h : o.WF s) : o.WFR s := by
  cases o with
  | moveCursor p => exact ⟨h.1, h.2.2.1⟩
  | setSize e => exact h.elim
  | _ => exact h

theorem step_writeElement (beh : Behaviour) (s : TermState) (e : Element) :
    step beh s (.writeElement e) =
      ((rawElement beh (defaultAttr s).1 e).1, (defaultAttr s).2 ++ (rawElement beh (defaultAttr s).1 e).2) := rfl
theorem step_writeString (beh : Behaviour) (s : TermState) (es : List Element) :
    step beh s (.writeString es) =
      ((rawElements beh (defaultAttr s).1 es).1, (defaultAttr s).2 ++ (rawElements beh (defaultAttr s).1 es).2) := rfl

theorem step_erase (beh : Behaviour) (s : TermState) (k : EraseKind) :
    step beh s (.erase k) =
      ({ s with last := (changeToDefault s.last).1 }, (changeToDefault s.last).2 ++ csiBytes ++ eraseSuffix k) := rfl

/-- what a step from `(s, vt)` to `(s', vt')` that printed `cells` and left the modes at `m` keeps: the rendition half
    without condition, the cursor half when it held and `W` (the operation's size condition) holds -/
structure OpSim (s : TermState) (vt : VT) (s' : TermState) (vt' : VT) (cells : List Cell) (m : VT.Modes) (W : Prop) :
    Prop where
  rend : AgreeRend s' vt'
  log : ∃ entries, vt'.log = vt.log ++ entries ∧ entries.map (·.2.2) = cells
  modes : vt'.modes = m
  cursor : AgreeCursor s vt → W → AgreeCursor s' vt'

theorem agreeRend_init (vt : VT) (hu : vt.Unknown) : AgreeRend {} vt :=
  ⟨hu.ground, hu.ok, (by intro e h; cases h), (charsetAgree_single (by decide)).2 ⟨hu.utf8, hu.g0⟩, (by intro b h; cases h)⟩

theorem agree_init (vt : VT) (hu : vt.Unknown) (sz : Extent) (hw : sz.width = vt.w) (hh : sz.height = vt.h) :
    Agree { size := sz } vt :=
  ⟨(agreeRend_init vt hu).congr rfl rfl, ⟨hw, hh, (by intro p h; cases h), (by intro p h; cases h)⟩⟩

theorem defaultAttr_none {s : TermState} (hl : s.last = none) : defaultAttr s = ({ s with last := some {} }, sgr0) := by
  rw [defaultAttr, hl]
theorem defaultAttr_some {s : TermState} {l : Element} (hl : s.last = some l) : defaultAttr s = (s, []) := by
  rw [defaultAttr, hl]

theorem defaultAttr_fields (s : TermState) :
    (defaultAttr s).1.cursor = s.cursor ∧ (defaultAttr s).1.size = s.size := by
  cases hl : s.last with
  | none => rw [defaultAttr_none hl]; exact ⟨rfl, rfl⟩
  | some l => rw [defaultAttr_some hl]; exact ⟨rfl, rfl⟩

theorem feed_defaultAttr (s : TermState) (vt : VT) (hg : vt.ps = .ground) :
    ∃ r, vt.feedAll (defaultAttr s).2 = { vt with rend := r } := by
  cases hl : s.last with
  | none => rw [defaultAttr_none hl]; exact ⟨{}, VT.feed_sgr0 vt hg⟩
  | some l => rw [defaultAttr_some hl]; exact ⟨vt.rend, rfl⟩

theorem sim_defaultAttr (s : TermState) (vt : VT) (hR : AgreeRend s vt) :
    AgreeRend (defaultAttr s).1 (vt.feedAll (defaultAttr s).2) ∧ (defaultAttr s).1.last.isSome = true ∧
    (vt.feedAll (defaultAttr s).2).log = vt.log ∧ (vt.feedAll (defaultAttr s).2).modes = vt.modes ∧
    (AgreeCursor s vt → AgreeCursor (defaultAttr s).1 (vt.feedAll (defaultAttr s).2)) := by
  cases hl : s.last with
  | none =>
    rw [defaultAttr_none hl, VT.feed_sgr0 vt hR.ground]
    exact ⟨⟨hR.ground, hR.ok, fun e he => by cases he; exact rendOf_default.symm, hR.charset_none hl, hR.visible⟩, rfl, rfl,
      rfl, fun hC => hC.congr rfl rfl⟩
  | some l =>
    rw [defaultAttr_some hl]
    exact ⟨hR, by rw [hl]; rfl, rfl, rfl, id⟩

theorem rawElement_last (beh : Behaviour) (s : TermState) (e : Element) : (rawElement beh s e).1.last = some e :=
  (advanceCursor_fields _).2.1

theorem rawElement_cursor (beh : Behaviour) (s : TermState) (e : Element) (p : Point) (hc : s.cursor = some p)
    (hne : p.x + 1 ≠ s.size.width) :
    (rawElement beh s e).1.cursor = some ⟨p.x + 1, p.y⟩ ∧ (rawElement beh s e).1.size = s.size :=
  ⟨(advanceCursor_cursor _ _).mpr ⟨p, hc, hne, rfl⟩, (advanceCursor_fields _).1⟩

theorem writeElement_last_column (beh : Behaviour) (s : TermState) (e : Element) (p : Point) (hc : s.cursor = some p)
    (hx : p.x + 1 = s.size.width) : (step beh s (.writeElement e)).1.cursor = none := by
  obtain ⟨h1, h2⟩ := defaultAttr_fields s
  refine Option.eq_none_iff_forall_ne_some.2 fun q hq => ?_
  obtain ⟨p', hp', hne, _⟩ := (advanceCursor_cursor { (defaultAttr s).1 with last := some e } q).mp hq
  cases (h1.trans hc).symm.trans hp'
  exact hne (hx.trans (congrArg Extent.width h2.symm))

theorem VT.print_modes (vt : VT) (bs : List Byte) : (vt.print bs).modes = vt.modes :=
  congrArg (fun f => (⟨f.cursorVisible, f.alt, f.mouse1000, f.mouse1003, f.title⟩ : VT.Modes)) (VT.print_frame vt bs)

theorem AgreeRend.print {s : TermState} {vt : VT} (hR : AgreeRend s vt) (bs : List Byte) :
    AgreeRend (advanceCursor s) (vt.print bs) :=
  hR.congr (by rw [(advanceCursor_fields s).2.1, (advanceCursor_fields s).2.2.2])
    (congrArg (fun f => (f.ps, f.malformed, f.rend, f.g0, f.utf8, f.cursorVisible)) (VT.print_frame vt bs))

/-- `advance_cursor_position` moves right where every terminal does, and gives up where terminals differ (the last
    column) -/
theorem AgreeCursor.print {s : TermState} {vt : VT} (hC : AgreeCursor s vt) (bs : List Byte) :
    AgreeCursor (advanceCursor s) (vt.print bs) := by
  obtain ⟨hsz, _, hsv, _⟩ := advanceCursor_fields s
  refine ⟨?_, ?_, fun q hq => ?_, fun q hq => ?_⟩
  · rw [VT.print_w, hsz]; exact hC.width
  · rw [VT.print_h, hsz]; exact hC.height
  · obtain ⟨p, hp, hne, rfl⟩ := (advanceCursor_cursor s q).mp hq
    obtain ⟨q1, q2, q3, q4, q5, q6, q7⟩ := hC.cursor p hp
    have hlt : vt.cx + 1 < vt.w := by
      rw [hC.width, ← Int.toNat_of_nonneg q1, q3] at hne
      omega
    obtain ⟨a1, a2, a3⟩ := VT.print_advance vt bs q5 hlt
    rw [VT.print_w, VT.print_h, a1, a2, a3]
    exact ⟨Int.add_nonneg q1 (by decide), q2, (toNat_succ p.x q1).trans (congrArg (· + 1) q3), q4, rfl, hlt, q7⟩
  · rw [VT.print_saved, VT.print_w, VT.print_h]; exact hC.saved q (hsv ▸ hq)

theorem sim_rawElement (beh : Behaviour) (s : TermState) (vt : VT) (e : Element) (hR : AgreeRend s vt)
    (hw : e.wf = true) (hk : s.last.isSome = true) :
    AgreeRend (rawElement beh s e).1 (vt.feedAll (rawElement beh s e).2) ∧
    (∃ x y, (vt.feedAll (rawElement beh s e).2).log = vt.log ++ [(x, y, cellOf e)] ∧
      (vt.pending = false → x = vt.cx ∧ y = vt.cy)) ∧
    (vt.feedAll (rawElement beh s e).2).modes = vt.modes ∧
    (AgreeCursor s vt → AgreeCursor (rawElement beh s e).1 (vt.feedAll (rawElement beh s e).2)) := by
  obtain ⟨g0, u, hfeed, hagree⟩ := feed_rawElement beh s vt e hR hw hk
  rw [hfeed]
  -- the terminal set up for `e` agrees with the belief `last := some e`; `print` and `advanceCursor` then go together
  refine ⟨AgreeRend.print (s := { s with last := some e }) ?rend _,
    ⟨_, _, by rw [VT.print_log, cell_eq_cellOf _ e rfl hagree], fun hp => ?pos⟩, VT.print_modes _ _,
    fun hC => AgreeCursor.print (s := { s with last := some e }) ?cur _⟩
  case rend => exact ⟨hR.ground, hR.ok, fun e' he' => by cases he'; rfl, hagree, hR.visible⟩
  case pos => rw [VT.resolvePending_eq]; exact ⟨rfl, rfl⟩; exact hp
  case cur => exact hC.congr rfl rfl

theorem sim_rawElements (beh : Behaviour) (es : List Element) :
    ∀ (s : TermState) (vt : VT), AgreeRend s vt → (∀ e ∈ es, e.wf = true) → s.last.isSome = true →
    OpSim s vt (rawElements beh s es).1 (vt.feedAll (rawElements beh s es).2) (es.map cellOf) vt.modes True := by
  induction es with
  | nil => intro s vt hR _ _; exact ⟨hR, ⟨[], (List.append_nil _).symm, rfl⟩, rfl, fun hC _ => hC⟩
  | cons e es ih =>
    intro s vt hR hw hk
    obtain ⟨hR1, ⟨x, y, hlog, _⟩, hm1, hC1⟩ := sim_rawElement beh s vt e hR (hw e (by simp)) hk
    obtain ⟨hR2, ⟨entries, hent, hcells⟩, hm2, hC2⟩ :=
      ih _ _ hR1 (fun e' he' => hw e' (by simp [he'])) (by rw [rawElement_last]; rfl)
    simp only [rawElements, VT.feedAll_append]
    exact ⟨hR2, ⟨(x, y, cellOf e) :: entries, by rw [hent, hlog]; simp, by simp [hcells]⟩, hm2.trans hm1,
      fun hC _ => hC2 (hC1 hC) trivial⟩

theorem feed_writeElement (beh : Behaviour) (s : TermState) (vt : VT) (hA : AgreeRend s vt) (e : Element)
    (hw : e.wf = true) :
    ∃ g0 u, vt.feedAll (step beh s (.writeElement e)).2
        = ({ vt with g0 := g0, utf8 := u, rend := rendOf e.attr } : VT).print e.glyph.text ∧
      CharsetAgree e.glyph.cs { vt with g0 := g0, utf8 := u, rend := rendOf e.attr } := by
  obtain ⟨hR1, hk1, _⟩ := sim_defaultAttr s vt hA
  obtain ⟨r, hr⟩ := feed_defaultAttr s vt hA.ground
  obtain ⟨g0, u, hf, hc⟩ := feed_rawElement beh _ _ e hR1 hw hk1
  rw [hr] at hf hc
  exact ⟨g0, u, by rw [step_writeElement, VT.feedAll_append, hr]; exact hf, hc⟩

theorem Attr.valid_default : (({} : Attr)).valid = true := by decide

theorem changeToDefault_fst (last : Option Element) :
    (changeToDefault last).1 = some { last.getD {} with attr := {} } := by
  cases last <;> rfl

theorem erase_last (beh : Behaviour) (s : TermState) (k : EraseKind) :
    (step beh s (.erase k)).1.last = some { s.last.getD {} with attr := {} } := changeToDefault_fst s.last

theorem feed_changeToDefault (s : TermState) (vt : VT) (hR : AgreeRend s vt) :
    vt.feedAll (changeToDefault s.last).2 = { vt with rend := {} } := by
  cases hl : s.last with
  | none => exact VT.feed_sgr0 vt hR.ground
  | some l => exact (feed_changeAttribute vt hR.ground l.attr {} Attr.valid_default (hR.rend l hl)).trans (by rw [rendOf_default])

/-- an erase manipulator first makes the rendition default, then clears exactly its region -/
theorem feed_eraseOp (beh : Behaviour) (s : TermState) (vt : VT) (hR : AgreeRend s vt) (k : EraseKind) :
    vt.feedAll (step beh s (.erase k)).2 = ({ vt with rend := {} } : VT).eraseWhere (eraseRegion k vt.cx vt.cy) := by
  rw [step_erase, List.append_assoc, VT.feedAll_append, feed_changeToDefault s vt hR]
  exact feed_erase { vt with rend := {} } hR.ground k

theorem eraseWhere_log (vt : VT) (p) : (vt.eraseWhere p).log = vt.log := rfl
theorem setMode_log (vt : VT) (on n) : (vt.setMode on n).log = vt.log := by
  simp only [VT.setMode, apply_ite VT.log, ite_self]
theorem setMode_modes (vt : VT) (on : Bool) (n : Nat) :
    (vt.setMode on n).modes =
      if n = 25 then { vt.modes with vis := on } else if n = 47 then { vt.modes with alt := on }
      else if n = 1000 then { vt.modes with m1000 := on } else if n = 1003 then { vt.modes with m1003 := on }
      else vt.modes := by
  simp only [VT.setMode, apply_ite VT.modes]
  rfl

theorem log_unchanged {vt vt' : VT} (h : vt'.log = vt.log) :
    ∃ entries : List (Nat × Nat × Cell), vt'.log = vt.log ++ entries ∧ entries.map (·.2.2) = [] :=
  ⟨[], h.trans (List.append_nil _).symm, rfl⟩

theorem sim_op (beh : Behaviour) (s : TermState) (vt : VT) (hR : AgreeRend s vt) (o : Op) (hw : o.WFR s) :
    OpSim s vt (step beh s o).1 (vt.feedAll (step beh s o).2) (o.elements.map cellOf) (modesAfter beh vt.modes (.op o))
      (o.WF s) := by
  -- In each case the byte lemma turns the terminal into a record update; `congr rfl rfl` then says that the update
  -- touches nothing the invariant reads, and what remains is what is special about the operation.
  have hg := hR.ground
  obtain ⟨hR1, hk1, hl1, hm1, hC1⟩ := sim_defaultAttr s vt hR
  -- the belief unchanged, the terminal updated in mode fields neither half reads: only the modes are left to say
  have quiet : ∀ {W : Prop} {a m0 m3 : Bool} {t : List Byte} {m : VT.Modes} (bytes : List Byte),
      vt.feedAll bytes = { vt with alt := a, mouse1000 := m0, mouse1003 := m3, title := t } →
      (⟨vt.cursorVisible, a, m0, m3, t⟩ : VT.Modes) = m → OpSim s vt s (vt.feedAll bytes) [] m W := by
    intro W a m0 m3 t m bytes hf hm
    rw [hf]
    exact ⟨hR.congr rfl rfl, log_unchanged rfl, hm, fun hC _ => hC.congr rfl rfl⟩
  -- hide_cursor / show_cursor: when the belief already says `b` nothing is sent, and then the belief is true, so
  -- either way the terminal ends with `cursorVisible := b`
  have vis : ∀ {W : Prop} (b : Bool) (bytes : List Byte), vt.feedAll bytes = { vt with cursorVisible := b } →
      OpSim s vt { s with visible := some b } (vt.feedAll (if s.visible = some b then [] else bytes)) []
        { vt.modes with vis := b } W := by
    intro W b bytes hf
    have hvt : vt.feedAll (if s.visible = some b then [] else bytes) = { vt with cursorVisible := b } := by
      by_cases h : s.visible = some b
      · rw [if_pos h, VT.feedAll_nil, ← hR.visible b h]
      · rw [if_neg h, hf]
    rw [hvt]
    exact ⟨⟨hg, hR.ok, hR.rend, hR.charset, fun _ hb => Option.some.inj hb⟩, log_unchanged rfl, rfl,
      fun hC _ => hC.congr rfl rfl⟩
  cases o with
  | writeElement e =>
    obtain ⟨hR2, ⟨x, y, hl2, _⟩, hm2, hC2⟩ := sim_rawElement beh _ _ e hR1 hw hk1
    rw [step_writeElement, VT.feedAll_append]
    exact ⟨hR2, ⟨[(x, y, cellOf e)], by rw [hl2, hl1], rfl⟩, hm2.trans hm1, fun hC _ => hC2 (hC1 hC)⟩
  | writeString es =>
    obtain ⟨hR2, ⟨entries, hl2, hc2⟩, hm2, hC2⟩ := sim_rawElements beh es _ _ hR1 hw hk1
    rw [step_writeString, VT.feedAll_append]
    exact ⟨hR2, ⟨entries, by rw [hl2, hl1], hc2⟩, hm2.trans hm1, fun hC _ => hC2 (hC1 hC) trivial⟩
  | rawElement e =>
    obtain ⟨hR2, ⟨x, y, hl2, _⟩, hm2, hC2⟩ := sim_rawElement beh s vt e hR hw.1 hw.2
    exact ⟨hR2, ⟨[(x, y, cellOf e)], hl2, rfl⟩, hm2, fun hC _ => hC2 hC⟩
  | defaultAttr => exact ⟨hR1, log_unchanged hl1, hm1, fun hC _ => hC1 hC⟩
  | moveCursor p =>
    obtain ⟨cx, cy, pd, hf, hto⟩ := feed_moveCursorBytes vt hg s p hw.1 hw.2
    simp only [step]
    rw [hf]
    refine ⟨hR.congr rfl rfl, log_unchanged rfl, rfl, fun hC hwf => ?_⟩
    obtain ⟨rfl, rfl, rfl⟩ := hto hC hwf.2.1 hwf.2.2.2
    refine ⟨hC.width, hC.height, fun q hq => ?_, hC.saved⟩
    cases hq
    exact ⟨hwf.1, hwf.2.2.1, rfl, rfl, rfl, (Int.toNat_lt hwf.1).2 (hC.width ▸ hwf.2.1),
      (Int.toNat_lt hwf.2.2.1).2 (hC.height ▸ hwf.2.2.2)⟩
  | hideCursor => exact vis false _ (feed_hide vt hg)
  | showCursor => exact vis true _ (feed_show vt hg)
  | saveCursor =>
    simp only [step]
    rw [feed_save vt hg]
    refine ⟨hR.congr rfl rfl, log_unchanged rfl, rfl, fun hC _ => ⟨hC.width, hC.height, hC.cursor, fun p hp => ?_⟩⟩
    obtain ⟨c1, c2, c3, c4, _, c6, c7⟩ := hC.cursor p hp
    exact ⟨c1, c2, by rw [c3, c4], c3 ▸ c6, c4 ▸ c7⟩
  | restoreCursor =>
    simp only [step]
    rw [feed_restore vt hg]
    refine ⟨hR.congr rfl rfl, log_unchanged rfl, rfl, fun hC _ => ⟨hC.width, hC.height, fun p hp => ?_, hC.saved⟩⟩
    obtain ⟨s1, s2, s3, s4, s5⟩ := hC.saved p hp
    rw [s3]
    exact ⟨s1, s2, rfl, rfl, rfl, s4, s5⟩
  | erase k =>
    rw [feed_eraseOp beh s vt hR k]
    have hl := erase_last beh s k
    refine ⟨⟨hg, hR.ok, fun e he => ?_, ?_, hR.visible⟩, log_unchanged rfl, rfl, fun hC _ => hC.congr rfl rfl⟩
    · cases hl.symm.trans he; exact rendOf_default.symm
    · rw [hl]
      cases h : s.last with
      | none => exact (hR.charset_none h).congr rfl rfl
      | some l => exact (hR.charset_some (l := l) h).congr rfl rfl
  | enableMouse =>
    exact quiet _ (feed_mouse beh vt hg true)
      (by simp only [modesAfter]; cases beh.basicMouse <;> cases beh.allMouse <;> rfl)
  | disableMouse =>
    exact quiet _ (feed_mouse beh vt hg false)
      (by simp only [modesAfter]; cases beh.basicMouse <;> cases beh.allMouse <;> rfl)
  | setTitle t =>
    exact quiet _ (feed_titleBytes beh vt hg t hw)
      (by simp only [modesAfter]; cases (beh.titleBel || beh.titleSt) <;> rfl)
  | normalBuffer => exact quiet _ (feed_normalBuffer vt hg) rfl
  | altBuffer => exact quiet _ (feed_altBuffer vt hg) rfl
  | setSize e => exact ⟨hR.congr rfl rfl, log_unchanged rfl, rfl, fun _ hwf => hwf.elim⟩
  | rawWrite bs => exact hw.elim
  | input bs => exact ⟨hR, log_unchanged rfl, rfl, fun hC _ => hC⟩

/-- a resize event: the belief forgets both positions, so whatever the terminal chose is consistent -/
theorem agree_resize_fresh (beh : Behaviour) (s : TermState) (vt : VT) (hA : AgreeRend s vt)
    (w h : Nat) (cells : Bool → Grid) (cx cy : Nat) (saved : Option (Nat × Nat)) (pending : Bool) :
    Agree (Sys.step beh (s, vt) (.resize w h cells cx cy saved pending)).1
          (Sys.step beh (s, vt) (.resize w h cells cx cy saved pending)).2 :=
  ⟨hA.congr rfl rfl, ⟨rfl, rfl, (by intro p hp; cases hp), (by intro p hp; cases hp)⟩⟩

theorem agree_resize (beh : Behaviour) (s : TermState) (vt : VT) (hA : Agree s vt)
    (w h : Nat) (cells : Bool → Grid) (cx cy : Nat) (saved : Option (Nat × Nat)) (pending : Bool) :
    Agree (Sys.step beh (s, vt) (.resize w h cells cx cy saved pending)).1
          (Sys.step beh (s, vt) (.resize w h cells cx cy saved pending)).2 :=
  agree_resize_fresh beh s vt hA.1 w h cells cx cy saved pending

/-- C08, one event: `rend` and `cursor` of `sim_op`, and the resize event -/
theorem agree_step (beh : Behaviour) (s : TermState) (vt : VT) (hA : Agree s vt) (ev : Ev) (hw : ev.WF s) :
    Agree (Sys.step beh (s, vt) ev).1 (Sys.step beh (s, vt) ev).2 := by
  cases ev with
  | resize w h cells cx cy saved pending => exact agree_resize beh s vt hA w h cells cx cy saved pending
  | op o =>
    obtain ⟨hR, _, _, hC⟩ := sim_op beh s vt hA.1 o (Op.WF.wfr hw)
    exact ⟨hR, hC hA.2 hw⟩

/-- what an event adds to the print log: exactly the cells of the elements it writes, in order -/
theorem step_log (beh : Behaviour) (s : TermState) (vt : VT) (hA : Agree s vt) (ev : Ev) (hw : ev.WF s) :
    ∃ entries, (Sys.step beh (s, vt) ev).2.log = vt.log ++ entries ∧ entries.map (·.2.2) = ev.elements.map cellOf := by
  cases ev with
  | resize w h cells cx cy saved pending => exact log_unchanged rfl
  | op o => exact (sim_op beh s vt hA.1 o (Op.WF.wfr hw)).log

theorem step_modes (beh : Behaviour) (s : TermState) (vt : VT) (hA : Agree s vt) (ev : Ev) (hw : ev.WF s) :
    (Sys.step beh (s, vt) ev).2.modes = modesAfter beh vt.modes ev := by
  cases ev with
  | resize w h cells cx cy saved pending => rfl
  | op o => exact (sim_op beh s vt hA.1 o (Op.WF.wfr hw)).modes

theorem sim_run (beh : Behaviour) (st : TermState × VT) (hA : Agree st.1 st.2) (evs : List Ev) (hw : RunWF beh st evs) :
    Agree (Sys.run beh st evs).1 (Sys.run beh st evs).2 ∧
    (∃ entries, (Sys.run beh st evs).2.log = st.2.log ++ entries ∧
      entries.map (·.2.2) = (evs.flatMap Ev.elements).map cellOf) ∧
    (Sys.run beh st evs).2.modes = evs.foldl (modesAfter beh) st.2.modes := by
  induction evs generalizing st with
  | nil => exact ⟨hA, log_unchanged rfl, rfl⟩
  | cons ev evs ih =>
    obtain ⟨e1, hl1, hc1⟩ := step_log beh st.1 st.2 hA ev hw.1
    obtain ⟨hA2, ⟨e2, hl2, hc2⟩, hm2⟩ := ih (Sys.step beh st ev) (agree_step beh st.1 st.2 hA ev hw.1) hw.2
    exact ⟨hA2, ⟨e1 ++ e2, by rw [Sys.run_cons, hl2, hl1, List.append_assoc], by simp [hc1, hc2]⟩,
      by rw [Sys.run_cons, hm2, step_modes beh st.1 st.2 hA ev hw.1]; rfl⟩

/-- C08: the simulation theorem -/
theorem agree_run (beh : Behaviour) (evs : List Ev) :
    ∀ (st : TermState × VT), Agree st.1 st.2 → RunWF beh st evs →
      Agree (Sys.run beh st evs).1 (Sys.run beh st evs).2 :=
  fun st hA hw => (sim_run beh st hA evs hw).1

/-- over a whole history the print log grows by exactly the requested cells, in order -/
theorem run_log (beh : Behaviour) (evs : List Ev) :
    ∀ (st : TermState × VT), Agree st.1 st.2 → RunWF beh st evs →
      ∃ entries, (Sys.run beh st evs).2.log = st.2.log ++ entries ∧
        entries.map (·.2.2) = (evs.flatMap Ev.elements).map cellOf :=
  fun st hA hw => (sim_run beh st hA evs hw).2.1

theorem log_of_elements_nil (beh : Behaviour) (s : TermState) (vt : VT) (hR : AgreeRend s vt) (o : Op) (hw : o.WFR s)
    (he : o.elements = []) : (vt.feedAll (step beh s o).2).log = vt.log := by
  obtain ⟨entries, h1, h2⟩ := (sim_op beh s vt hR o hw).log
  rw [he] at h2
  rw [h1, List.map_eq_nil_iff.1 h2, List.append_nil]

theorem RunWF.take (beh : Behaviour) (evs : List Ev) : ∀ (st : TermState × VT) (k : Nat), RunWF beh st evs → RunWF beh st (evs.take k) := by
  induction evs with
  | nil => intro st k h; cases k <;> exact h
  | cons ev evs ih =>
    intro st k h
    cases k with
    | zero => trivial
    | succ k => exact ⟨h.1, ih _ k h.2⟩

theorem run_append (beh : Behaviour) (a b : List Op) : ∀ s : TermState,
    run beh s (a ++ b) = ((run beh (run beh s a).1 b).1, (run beh s a).2 ++ (run beh (run beh s a).1 b).2) := by
  induction a with
  | nil => intro s; simp [run]
  | cons o a ih => intro s; simp only [List.cons_append, run, ih, List.append_assoc]

theorem sys_run_ops (beh : Behaviour) (ops : List Op) : ∀ (s : TermState) (vt : VT),
    Sys.run beh (s, vt) (ops.map Ev.op) = ((run beh s ops).1, vt.feedAll (run beh s ops).2) := by
  induction ops with
  | nil => intro s vt; rfl
  | cons o ops ih =>
    intro s vt
    simp only [List.map_cons, Sys.run_cons, run, VT.feedAll_append]
    rw [show Sys.step beh (s, vt) (Ev.op o) = ((step beh s o).1, vt.feedAll (step beh s o).2) from rfl, ih]

/-- the library's view of where a move goes is where the terminal's cursor ends up -/
theorem feed_moveCursor (s : TermState) (vt : VT) (hA : Agree s vt) (p : Point)
    (hx0 : 0 ≤ p.x) (hxw : p.x < s.size.width) (hy0 : 0 ≤ p.y) (hyh : p.y < s.size.height) :
    vt.feedAll (moveCursorBytes s.cursor p) = { vt with cx := p.x.toNat, cy := p.y.toNat, pending := false } := by
  obtain ⟨cx, cy, pd, hf, hto⟩ := feed_moveCursorBytes vt hA.1.ground s p hx0 hy0
  obtain ⟨rfl, rfl, rfl⟩ := hto hA.2 hxw hyh
  exact hf

theorem agree_erase (beh : Behaviour) (s : TermState) (vt : VT) (hA : Agree s vt) (k : EraseKind) :
    Agree (step beh s (.erase k)).1 (vt.feedAll (step beh s (.erase k)).2) :=
  agree_step beh s vt hA (.op (.erase k)) trivial

theorem writeElement_log (beh : Behaviour) (s : TermState) (vt : VT) (hR : AgreeRend s vt) (e : Element) (hw : e.wf = true) :
    ∃ x y, (vt.feedAll (step beh s (.writeElement e)).2).log = vt.log ++ [(x, y, cellOf e)] := by
  obtain ⟨g0, u, hf, hc⟩ := feed_writeElement beh s vt hR e hw
  exact ⟨_, _, by rw [hf, VT.print_log, cell_eq_cellOf _ e rfl hc]⟩

/-- consecutive glyphs written from a known position land in consecutive columns of that row -/
theorem rawElements_positions (beh : Behaviour) (es : List Element) :
    ∀ (s : TermState) (vt : VT) (p : Point), Agree s vt → s.cursor = some p → (∀ e ∈ es, e.wf = true) →
      s.last.isSome = true → p.x + es.length ≤ s.size.width →
      ∃ entries, (vt.feedAll (rawElements beh s es).2).log = vt.log ++ entries ∧
        entries.map (fun t => (t.1, t.2.1)) = (List.range es.length).map (fun i => (p.x.toNat + i, p.y.toNat)) ∧
        entries.map (·.2.2) = es.map cellOf := by
  induction es with
  | nil => intro s vt p _ _ _ _ _; exact ⟨[], (List.append_nil _).symm, rfl, rfl⟩
  | cons e es ih =>
    intro s vt p hA hc hw hk hlen
    obtain ⟨hR1, ⟨x, y, hlog, hxy⟩, _, hC1⟩ := sim_rawElement beh s vt e hA.1 (hw e (by simp)) hk
    obtain ⟨p0, _, q3, q4, q5, _, _⟩ := hA.2.cursor p hc
    obtain ⟨hx, hy⟩ := hxy q5
    rw [← q3] at hx; rw [← q4] at hy
    -- after the last glyph the belief may be gone (last column); the IH needs a believed cursor, so it is used only
    -- when another element follows
    cases es with
    | nil => exact ⟨[(x, y, cellOf e)], by simp only [rawElements, List.append_nil]; exact hlog, by simp [hx, hy], rfl⟩
    | cons e2 es2 =>
      have hne : p.x + 1 ≠ s.size.width := by simp at hlen; omega
      obtain ⟨hc1, hs1⟩ := rawElement_cursor beh s e p hc hne
      obtain ⟨entries, hent, hp2, hcells⟩ := ih (rawElement beh s e).1 _ ⟨p.x + 1, p.y⟩ ⟨hR1, hC1 hA.2⟩ hc1
        (fun e' he' => hw e' (by simp [he'])) (by rw [rawElement_last]; rfl) (by rw [hs1]; simp at hlen ⊢; omega)
      refine ⟨(x, y, cellOf e) :: entries, ?_, ?_, by simp [hcells]⟩
      · simp only [rawElements, VT.feedAll_append] at hent ⊢
        rw [hent, hlog]; simp
      · have hr : ∀ f : Nat → Nat × Nat, (List.range (e :: e2 :: es2).length).map f =
            f 0 :: (List.range (e2 :: es2).length).map (f ∘ Nat.succ) := fun f => by
          rw [show (e :: e2 :: es2).length = (e2 :: es2).length + 1 from rfl, List.range_succ_eq_map, List.map_cons,
            List.map_map]
        rw [hr, List.map_cons, hp2, hx, hy]
        refine congrArg _ (List.map_congr_left fun i _ => ?_)
        show ((p.x + 1).toNat + i, _) = (p.x.toNat + (i + 1), _)
        rw [toNat_succ p.x p0, Nat.add_right_comm]; rfl

end Tpp
