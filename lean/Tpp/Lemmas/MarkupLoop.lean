import Tpp.Model.Markup
/-! The loop of `parse_element`: its equations on each form of markup, that every call consumes input (so `encode`
needs no fuel), and that its handler-table lookups stay in bounds. -/
namespace Tpp.Markup

theorem parseLoop_nil (st sc e) : parseLoop [] st sc e = (e, []) := rfl

theorem parseLoop_done (bs : List Byte) (sc e) : parseLoop bs .done sc e = (e, bs) := by
  cases bs <;> rfl

theorem parseLoop_cons (b : Byte) (bs st sc e) (h : st ≠ .done) :
    parseLoop (b :: bs) st sc e = parseLoop bs (step st b sc e).1 (step st b sc e).2.1 (step st b sc e).2.2 := by
  simp [parseLoop, h]

/-! ### on each form of input
The numerals are the markup characters and regenerated constants (`0x25` = `Consts.charset_extender`): a changed
constant breaks the `rfl`. -/
section forms
variable {rest : List Byte} {sc : Scratch} {e : Element}

theorem parseLoop_literal (b : Byte) (h : b ≠ 0x5C) : parseLoop (b :: rest) .idle sc e = (setChar b e, rest) := by
  have : parseIdle b sc e = (.done, sc, setChar b e) := if_neg h
  rw [parseLoop_cons _ _ _ _ _ (by decide), step, this, parseLoop_done]

-- in projections, so that both sides compute at a literal escape letter
theorem parseLoop_escape (c : Byte) :
    parseLoop (0x5C :: c :: rest) .idle sc e =
      parseLoop rest (parseEscape c sc e).1 (parseEscape c sc e).2.1 (parseEscape c sc e).2.2 := by
  rw [parseLoop, parseLoop]; rfl

theorem parseLoop_charcode (a b c : Byte) :
    parseLoop (a :: b :: c :: rest) .charcode0 sc e = (setChar ((digit10 a * 10 + digit10 b) * 10 + digit10 c) e, rest) := by
  simp only [parseLoop, step, parseCharcode0, parseCharcode1, parseCharcode2, parseLoop_done]; rfl

theorem parseLoop_utf (a b c d : Byte) :
    parseLoop (a :: b :: c :: d :: rest) .utf0 sc e =
      ({ e with glyph := utf8Glyph (((hexWord a * 16 + hexWord b) * 16 + hexWord c) * 16 + hexWord d).toNat }, rest) := by
  simp only [parseLoop, step, parseUtf0, parseUtf1, parseUtf2, parseUtf3, parseLoop_done]; rfl

theorem parseLoop_charset (b : Byte) (h : b ≠ 0x25) :
    parseLoop (b :: rest) .charset sc e = parseLoop rest .idle sc (applyLookup (lookupCharset [b]) e) := by
  rw [parseLoop_cons _ _ _ _ _ (by decide), step, parseCharset, if_neg h]

theorem parseLoop_charsetExt (b : Byte) :
    parseLoop (0x25 :: b :: rest) .charset sc e = parseLoop rest .idle sc (applyLookup (lookupCharset [0x25, b]) e) := by
  rw [parseLoop, parseLoop]; rfl

theorem parseLoop_low (g : Ground) (b : Byte) :
    parseLoop (b :: rest) (low g) sc e = parseLoop rest .idle sc (setColour g (.low (digit10 b)) e) := by
  cases g <;> rfl

-- `∃ sc'`: every form assigns its scratch registers before reading them.  Plain evaluation, as for `low`; through
-- `simp only` because `rfl` alone costs the unifier two to three times as much
theorem parseLoop_high (g : Ground) (r gr b : Byte) :
    ∃ sc', parseLoop (r :: gr :: b :: rest) (high0 g) sc e =
      parseLoop rest .idle sc' (setColour g (Colour.ofHigh (digit10 r) (digit10 gr) (digit10 b)) e) := by
  cases g <;> exact ⟨_, by simp only [parseLoop, step, high0, parseHigh0, parseHigh1, parseHigh2, high1, high2]; rfl⟩

theorem parseLoop_grey (g : Ground) (a b : Byte) :
    ∃ sc', parseLoop (a :: b :: rest) (grey0 g) sc e =
      parseLoop rest .idle sc' (setColour g (Colour.ofGrey (digit10 a * 10 + digit10 b)) e) := by
  cases g <;> exact ⟨_, by simp only [parseLoop, step, grey0, parseGrey0, parseGrey1, grey1]; rfl⟩

theorem parseLoop_true (g : Ground) (r1 r0 g1 g0 b1 b0 : Byte) :
    ∃ sc', parseLoop (r1 :: r0 :: g1 :: g0 :: b1 :: b0 :: rest) (true0 g) sc e =
      parseLoop rest .idle sc' (setColour g (.rgb (digit16 r1 <<< 4 ||| digit16 r0) (digit16 g1 <<< 4 ||| digit16 g0)
        (digit16 b1 <<< 4 ||| digit16 b0)) e) := by
  cases g <;> exact ⟨_, by
    simp only [parseLoop, step, true0, parseTrue0, parseTrue1, parseTrue2, parseTrue3, parseTrue4, parseTrue5,
      true1, true2, true3, true4, true5]; rfl⟩

end forms

theorem parseLoop_rest_le (bs : List Byte) : ∀ st sc e, (parseLoop bs st sc e).2.length ≤ bs.length := by
  induction bs with
  | nil => intro st sc e; rw [parseLoop_nil]; exact Nat.le_refl _
  | cons b bs ih =>
    intro st sc e
    by_cases h : st = .done
    · subst h; simp [parseLoop_done]
    · rw [parseLoop_cons b bs st sc e h]
      exact Nat.le_trans (ih _ _ _) (Nat.le_succ _)

theorem parseElement_consumes (b : Byte) (bs : List Byte) (prev : Element) :
    (parseElement (b :: bs) prev).2.length ≤ bs.length := by
  unfold parseElement
  rw [parseLoop_cons _ _ _ _ _ (by decide)]
  exact parseLoop_rest_le _ _ _ _

theorem encodeFuel_congr : ∀ (n m : Nat) (bs : List Byte) (prev : Element), bs.length ≤ n → bs.length ≤ m →
    encodeFuel n bs prev = encodeFuel m bs prev := by
  intro n
  induction n with
  | zero =>
    intro m bs prev h1 _
    have : bs = [] := List.eq_nil_of_length_eq_zero (Nat.le_zero.mp h1)
    subst this
    cases m <;> simp [encodeFuel]
  | succ n ih =>
    intro m bs prev h1 h2
    cases bs with
    | nil => cases m <;> simp [encodeFuel]
    | cons b bs =>
      cases m with
      | zero => simp at h2
      | succ m =>
        simp only [encodeFuel]
        have hc := parseElement_consumes b bs prev
        simp only [List.length_cons] at h1 h2
        rw [ih m _ _ (by omega) (by omega)]

theorem encodeFuel_enough (n : Nat) (bs : List Byte) (prev : Element) (h : bs.length ≤ n) :
    encodeFuel n bs prev = encodeFrom bs prev :=
  encodeFuel_congr n bs.length bs prev h (Nat.le_refl _)

theorem encodeFrom_nil (prev : Element) : encodeFrom [] prev = [] := by
  simp [encodeFrom, encodeFuel]

theorem encodeFrom_of_ne_nil (bs : List Byte) (prev : Element) (h : bs ≠ []) :
    encodeFrom bs prev = (parseElement bs prev).1 :: encodeFrom (parseElement bs prev).2 (parseElement bs prev).1 := by
  cases bs with
  | nil => exact absurd rfl h
  | cons b bs =>
    simp only [encodeFrom, List.length_cons, encodeFuel]
    congr 1
    exact encodeFuel_enough _ _ _ (parseElement_consumes b bs prev)

theorem encodeFuel_count_le (n : Nat) : ∀ (bs : List Byte) (prev : Element), (encodeFuel n bs prev).length ≤ bs.length := by
  induction n with
  | zero => intro bs prev; cases bs <;> simp [encodeFuel]
  | succ n ih =>
    intro bs prev
    cases bs with
    | nil => simp [encodeFuel]
    | cons b bs =>
      simp only [encodeFuel, List.length_cons]
      have := ih (parseElement (b :: bs) prev).2 (parseElement (b :: bs) prev).1
      have := parseElement_consumes b bs prev
      omega

theorem handlerTable_index (st : PState) (h : st ≠ .done) : handlerTable[st.index]? = some (step st) := by
  cases st <;> first | rfl | exact absurd rfl h

theorem parseLoopChecked_eq (bs : List Byte) : ∀ st sc e, parseLoopChecked bs st sc e = some (parseLoop bs st sc e) := by
  induction bs with
  | nil => intro st sc e; simp [parseLoopChecked, parseLoop]
  | cons b bs ih =>
    intro st sc e
    by_cases h : st = .done
    · subst h; simp [parseLoopChecked, parseLoop]
    · simp only [parseLoopChecked, h, if_false, handlerTable_index st h, parseLoop]
      exact ih _ _ _

end Tpp.Markup
