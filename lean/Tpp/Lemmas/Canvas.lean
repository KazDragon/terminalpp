import Tpp.Model.Canvas
/-! The canvas: row-major addressing by division with remainder, the region enumeration of `for_each_in_region`,
and `resize`/`fill` as folds of point updates. -/
namespace Tpp.Lemmas.Canvas

theorem idx_nonneg {W x y : Int} (hW : 0 ≤ W) (hx : 0 ≤ x) (hy : 0 ≤ y) : 0 ≤ y * W + x :=
  Int.add_nonneg (Int.mul_nonneg hy hW) hx

theorem idx_lt {W H x y : Int} (hx0 : 0 ≤ x) (hx : x < W) (hy : y < H) : y * W + x < W * H :=
  calc y * W + x < y * W + W := Int.add_lt_add_left hx _
    _ = (y + 1) * W := by rw [Int.add_mul, Int.one_mul]
    _ ≤ H * W := Int.mul_le_mul_of_nonneg_right hy (Int.le_of_lt (Int.lt_of_le_of_lt hx0 hx))
    _ = W * H := Int.mul_comm _ _

theorem idx_emod {W x : Int} (y : Int) (hx0 : 0 ≤ x) (hx : x < W) : (y * W + x) % W = x := by
  rw [Int.add_comm, Int.add_mul_emod_self_right, Int.emod_eq_of_lt hx0 hx]

theorem idx_ediv {W x : Int} (y : Int) (hx0 : 0 ≤ x) (hx : x < W) : (y * W + x) / W = y := by
  rw [Int.add_comm, Int.add_mul_ediv_right _ _ (Int.ne_of_gt (Int.lt_of_le_of_lt hx0 hx)),
    Int.ediv_eq_zero_of_lt hx0 hx, Int.zero_add]

theorem idx_inj {W : Int} {p q : Int × Int} (hp : 0 ≤ p.1 ∧ p.1 < W ∧ 0 ≤ p.2) (hq : 0 ≤ q.1 ∧ q.1 < W ∧ 0 ≤ q.2)
    (h : (p.2 * W + p.1).toNat = (q.2 * W + q.1).toNat) : p = q := by
  have hW : 0 ≤ W := Int.le_of_lt (Int.lt_of_le_of_lt hp.1 hp.2.1)
  have h : p.2 * W + p.1 = q.2 * W + q.1 := by
    rw [← Int.toNat_of_nonneg (idx_nonneg hW hp.1 hp.2.2), h, Int.toNat_of_nonneg (idx_nonneg hW hq.1 hq.2.2)]
  exact Prod.ext (by rw [← idx_emod p.2 hp.1 hp.2.1, h, idx_emod q.2 hq.1 hq.2.1])
    (by rw [← idx_ediv p.2 hp.1 hp.2.1, h, idx_ediv q.2 hq.1 hq.2.1])

theorem wf_length {c : Canvas} (h : c.WF) : (c.grid.length : Int) = c.size.width * c.size.height := by
  obtain ⟨hw, hh, hl⟩ := h
  rw [hl, Int.natCast_mul, Int.toNat_of_nonneg hw, Int.toNat_of_nonneg hh]

theorem index_lt {c : Canvas} (h : c.WF) {x y : Int} (hx0 : 0 ≤ x) (hx : x < c.size.width)
    (hy0 : 0 ≤ y) (hy : y < c.size.height) : c.index x y < c.grid.length := by
  rw [Canvas.index, Int.toNat_lt (idx_nonneg h.1 hx0 hy0), wf_length h]
  exact idx_lt hx0 hx hy

theorem index_nat {c : Canvas} {x y : Int} (hw : 0 ≤ c.size.width) (hx0 : 0 ≤ x) (hy0 : 0 ≤ y) :
    c.index x y = y.toNat * c.size.width.toNat + x.toNat := by
  rw [Canvas.index, Int.toNat_add (Int.mul_nonneg hy0 hw) hx0, Int.toNat_mul hy0 hw]

theorem get_eq_getElem {c : Canvas} {x y : Int} (h : c.index x y < c.grid.length) : c.get x y = c.grid[c.index x y] := by
  rw [Canvas.get, List.getD_eq_getElem?_getD, List.getElem?_eq_getElem h, Option.getD_some]

theorem set_size (c : Canvas) (x y : Int) (e : Element) : (c.set x y e).size = c.size := rfl

theorem set_wf {c : Canvas} (hc : c.WF) (x y : Int) (e : Element) : (c.set x y e).WF :=
  ⟨hc.1, hc.2.1, List.length_set.trans hc.2.2⟩

theorem mem_intRange {s n a : Int} : a ∈ intRange s n ↔ s ≤ a ∧ a < s + n := by
  rw [intRange, List.mem_map]
  constructor
  · rintro ⟨i, hi, rfl⟩
    exact ⟨Int.le_add_of_nonneg_right (Int.natCast_nonneg i),
      Int.add_lt_add_left (Int.lt_toNat.mp (List.mem_range.mp hi)) s⟩
  · intro ⟨h1, h2⟩
    have h0 : ((a - s).toNat : Int) = a - s := Int.toNat_of_nonneg (Int.sub_nonneg.mpr h1)
    refine ⟨(a - s).toNat, List.mem_range.mpr (Int.lt_toNat.mpr ?_), ?_⟩
    · rw [h0]; exact Int.sub_left_lt_of_lt_add h2
    · show s + ((a - s).toNat : Int) = a
      rw [h0, Int.add_comm, Int.sub_add_cancel]

theorem pairwise_intRange (s n : Int) : List.Pairwise (· < ·) (intRange s n) := by
  rw [intRange, List.pairwise_map]
  exact List.pairwise_lt_range.imp fun h => Int.add_lt_add_left (Int.ofNat_lt.mpr h) s

theorem length_intRange (s n : Int) : (intRange s n).length = n.toNat := by
  simp [intRange]

theorem mem_regionCoords {r : Rectangle} {p : Int × Int} :
    p ∈ regionCoords r ↔
      (r.origin.x ≤ p.1 ∧ p.1 < r.origin.x + r.size.width) ∧ (r.origin.y ≤ p.2 ∧ p.2 < r.origin.y + r.size.height) := by
  simp only [regionCoords, List.mem_flatMap, List.mem_map, mem_intRange]
  exact ⟨fun ⟨_, hrow, _, hcol, e⟩ => e ▸ ⟨hcol, hrow⟩, fun ⟨hc, hr⟩ => ⟨p.2, hr, p.1, hc, rfl⟩⟩

theorem mem_regionCoords_zero {e : Extent} {p : Int × Int} :
    p ∈ regionCoords ⟨⟨0, 0⟩, e⟩ ↔ 0 ≤ p.1 ∧ p.1 < e.width ∧ 0 ≤ p.2 ∧ p.2 < e.height := by
  rw [mem_regionCoords, Int.zero_add, Int.zero_add, and_assoc]

/-- strict row-major order on `(column, row)` pairs -/
def RowMajorLt (p q : Int × Int) : Prop := p.2 < q.2 ∨ (p.2 = q.2 ∧ p.1 < q.1)

theorem pairwise_regionCoords (r : Rectangle) : List.Pairwise RowMajorLt (regionCoords r) := by
  rw [regionCoords, List.pairwise_flatMap]
  refine ⟨fun row _ => List.pairwise_map.mpr ((pairwise_intRange _ _).imp fun h => .inr ⟨rfl, h⟩),
    (pairwise_intRange _ _).imp fun hab x hx y hy => ?_⟩
  obtain ⟨_, _, rfl⟩ := List.mem_map.mp hx
  obtain ⟨_, _, rfl⟩ := List.mem_map.mp hy
  exact .inl hab

theorem RowMajorLt.ne {p q : Int × Int} (h : RowMajorLt p q) : p ≠ q := by
  intro e; subst e
  rcases h with h | ⟨_, h⟩ <;> exact Int.lt_irrefl _ h

theorem nodup_regionCoords (r : Rectangle) : (regionCoords r).Nodup :=
  (pairwise_regionCoords r).imp RowMajorLt.ne

/-- the flatMap over rows, written over natural-number offsets -/
theorem regionCoords_eq_range (ox oy : Int) (w h : Nat) :
    regionCoords ⟨⟨ox, oy⟩, ⟨w, h⟩⟩ =
      (List.range (w * h)).map fun k => (ox + ((k % w : Nat) : Int), oy + ((k / w : Nat) : Int)) := by
  unfold regionCoords intRange
  simp only [Int.toNat_natCast, Int.ofNat_eq_natCast, List.flatMap_map, List.map_map]
  induction h with
  | zero => simp
  | succ h ih =>
    rw [List.range_succ, List.flatMap_append, ih, Nat.mul_succ, List.range_add, List.map_append]
    congr 1
    simp only [List.flatMap_cons, List.flatMap_nil, List.append_nil, List.map_map]
    apply List.map_congr_left
    intro c hc
    rw [List.mem_range] at hc
    simp only [Function.comp]
    rw [Nat.mul_add_mod, Nat.mul_add_div (Nat.zero_lt_of_lt hc), Nat.mod_eq_of_lt hc, Nat.div_eq_of_lt hc, Nat.add_zero]

theorem getD_replicate_self {α : Type} (n k : Nat) (a : α) : (List.replicate n a).getD k a = a := by
  rw [List.getD_eq_getElem?_getD, List.getElem?_replicate]
  split <;> rfl

theorem getD_set_eq {α : Type} (l : List α) (i : Nat) (a d : α) (h : i < l.length) : (l.set i a).getD i d = a := by
  rw [List.getD_eq_getElem?_getD, List.getElem?_set_self h, Option.getD_some]

theorem getD_set_ne {α : Type} (l : List α) (i j : Nat) (a d : α) (h : i ≠ j) : (l.set i a).getD j d = l.getD j d := by
  rw [List.getD_eq_getElem?_getD, List.getD_eq_getElem?_getD, List.getElem?_set_ne h]

theorem get_set {c : Canvas} (hc : c.WF) {x y x' y' : Int} (e : Element)
    (hx0 : 0 ≤ x) (hx : x < c.size.width) (hy0 : 0 ≤ y) (hy : y < c.size.height)
    (hx0' : 0 ≤ x') (hx' : x' < c.size.width) (hy0' : 0 ≤ y') :
    (c.set x y e).get x' y' = if x' = x ∧ y' = y then e else c.get x' y' := by
  show (c.grid.set (c.index x y) e).getD (c.index x' y') {} = _
  by_cases h : x' = x ∧ y' = y
  · obtain ⟨rfl, rfl⟩ := h
    rw [if_pos ⟨rfl, rfl⟩, getD_set_eq _ _ _ _ (index_lt hc hx0 hx hy0 hy)]
  · rw [if_neg h]
    refine getD_set_ne _ _ _ _ _ fun heq => ?_
    have := idx_inj (p := (x, y)) (q := (x', y')) ⟨hx0, hx, hy0⟩ ⟨hx0', hx', hy0'⟩ heq
    exact h ⟨(congrArg Prod.fst this).symm, (congrArg Prod.snd this).symm⟩

theorem fold_set_length {α β : Type} (f : α → Nat) (v : α → β) (ps : List α) (g : List β) :
    (ps.foldl (fun g p => g.set (f p) (v p)) g).length = g.length := by
  induction ps generalizing g with
  | nil => rfl
  | cons p ps ih => rw [List.foldl_cons, ih, List.length_set]

/-- only `a` itself is written to position `f a`, so membership of `a` decides what is read there -/
theorem getD_fold_set {α β : Type} (f : α → Nat) (v : α → β) (ps : List α) (g : List β) (a : α) (d : β)
    (ha : f a < g.length) (hinj : ∀ p ∈ ps, f p = f a → p = a) :
    (a ∈ ps → (ps.foldl (fun g p => g.set (f p) (v p)) g).getD (f a) d = v a) ∧
    (a ∉ ps → (ps.foldl (fun g p => g.set (f p) (v p)) g).getD (f a) d = g.getD (f a) d) := by
  induction ps generalizing g with
  | nil => exact ⟨fun h => absurd h List.not_mem_nil, fun _ => rfl⟩
  | cons p ps ih =>
    obtain ⟨ih1, ih2⟩ := ih (g.set (f p) (v p)) (by rw [List.length_set]; exact ha)
      fun q hq => hinj q (List.mem_cons_of_mem _ hq)
    rw [List.foldl_cons]
    refine ⟨fun h => ?_, fun h => ?_⟩
    · by_cases hm : a ∈ ps
      · exact ih1 hm
      · cases (List.mem_cons.mp h).resolve_right hm
        rw [ih2 hm, getD_set_eq _ _ _ _ ha]
    · rw [ih2 (fun hm => h (List.mem_cons_of_mem _ hm)),
        getD_set_ne _ _ _ _ _ fun hf => h (hinj p List.mem_cons_self hf ▸ List.mem_cons_self)]

theorem resize_size (c : Canvas) (s : Extent) : (c.resize s).size = s := rfl

theorem resize_grid_length (c : Canvas) (s : Extent) :
    (c.resize s).grid.length = (s.width * s.height).toNat :=
  (fold_set_length _ _ _ _).trans List.length_replicate

theorem resize_wf (c : Canvas) {s : Extent} (hw : 0 ≤ s.width) (hh : 0 ≤ s.height) : (c.resize s).WF :=
  ⟨hw, hh, by rw [resize_grid_length, resize_size, Int.toNat_mul hw hh]⟩

theorem resize_get (c : Canvas) {s : Extent} {x y : Int}
    (hx0 : 0 ≤ x) (hx : x < s.width) (hy0 : 0 ≤ y) (hy : y < s.height) :
    (c.resize s).get x y = if x < c.size.width ∧ y < c.size.height then c.get x y else {} := by
  have hlt := idx_lt hx0 hx hy
  have hpos := Int.lt_of_le_of_lt (idx_nonneg (Int.le_of_lt (Int.lt_of_le_of_lt hx0 hx)) hx0 hy0) hlt
  -- the cell is written iff it lies in the common part; no other visited cell lands on its index
  have key := getD_fold_set (fun p : Int × Int => (p.2 * s.width + p.1).toNat) (fun p => c.get p.1 p.2)
    (regionCoords ⟨⟨0, 0⟩, ⟨min s.width c.size.width, min s.height c.size.height⟩⟩)
    (List.replicate (s.width * s.height).toNat {}) (x, y) {}
    (by rw [List.length_replicate, Int.toNat_lt_toNat hpos]; exact hlt)
    (fun q hq hf =>
      have hm := mem_regionCoords_zero.mp hq
      idx_inj ⟨hm.1, Int.lt_of_lt_of_le hm.2.1 (Int.min_le_left _ _), hm.2.2.1⟩ ⟨hx0, hx, hy0⟩ hf)
  simp only [mem_regionCoords_zero, Int.lt_min] at key
  split
  · rename_i h
    exact key.1 ⟨hx0, ⟨hx, h.1⟩, hy0, hy, h.2⟩
  · rename_i h
    exact (key.2 fun hm => h ⟨hm.2.1.2, hm.2.2.2.2⟩).trans (getD_replicate_self _ _ _)

/-- `set` keeps the size, so `fill` folds over the grid alone -/
theorem fill_eq (c : Canvas) (r : Rectangle) (e : Element) :
    c.fill r e = { c with grid := (regionCoords r).foldl (fun g p => g.set (c.index p.1 p.2) e) c.grid } := by
  unfold Canvas.fill
  generalize regionCoords r = ps
  induction ps generalizing c with
  | nil => rfl
  | cons p ps ih => rw [List.foldl_cons, ih]; rfl

theorem fill_size (c : Canvas) (r : Rectangle) (e : Element) : (c.fill r e).size = c.size := by rw [fill_eq]

theorem fill_wf {c : Canvas} (hc : c.WF) (r : Rectangle) (e : Element) : (c.fill r e).WF := by
  rw [fill_eq]
  exact ⟨hc.1, hc.2.1, (fold_set_length _ _ _ _).trans hc.2.2⟩

/-- only the right edge is bounded: a row past the bottom indexes past the grid, where `set` does nothing; a column
    past the right edge would alias into the next row -/
theorem fill_get {c : Canvas} (hc : c.WF) {r : Rectangle} (e : Element) (hox : 0 ≤ r.origin.x) (hoy : 0 ≤ r.origin.y)
    (hrw : r.origin.x + r.size.width ≤ c.size.width) {x y : Int}
    (hx0 : 0 ≤ x) (hx : x < c.size.width) (hy0 : 0 ≤ y) (hy : y < c.size.height) :
    (c.fill r e).get x y = if (x, y) ∈ regionCoords r then e else c.get x y := by
  have key := getD_fold_set (fun p : Int × Int => c.index p.1 p.2) (fun _ => e) (regionCoords r) c.grid (x, y) {}
    (index_lt hc hx0 hx hy0 hy)
    (fun q hq hf =>
      have hm := mem_regionCoords.mp hq
      idx_inj ⟨Int.le_trans hox hm.1.1, Int.lt_of_lt_of_le hm.1.2 hrw, Int.le_trans hoy hm.2.1⟩ ⟨hx0, hx, hy0⟩ hf)
  rw [fill_eq]
  show (List.foldl _ c.grid (regionCoords r)).getD (c.index x y) {} = _
  split
  · exact key.1 ‹_›
  · exact key.2 ‹_›

end Tpp.Lemmas.Canvas
