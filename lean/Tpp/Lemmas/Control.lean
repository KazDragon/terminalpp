import Tpp.Lemmas.Agree
import Tpp.Ref.Regions
/-!
Byte-level effect of each cursor / erase / mode / title control function the library emits: its bytes are
`csiBytes ++ joinParams ps ++ [final]` (a parameter left out is a shorter list), `VT.feed_csiSeq` feeds them, the
`VT.dispatch_*` equation of the final byte says what happens.  The effects are exact, cursor addressing clamped to the
screen; only `feed_CUP` and the second clause of `feed_moveCursorBytes` relate positions to sizes.
-/
namespace Tpp

theorem decInt_nonneg (i : Int) (h : 0 ≤ i) : decInt i = decDigits i.toNat := by
  simp [decInt]; omega

theorem toNat_succ (x : Int) (h : 0 ≤ x) : (x + 1).toNat = x.toNat + 1 := Int.toNat_add h (by decide)
theorem min_toNat_pred (a : Int) (w : Nat) (h : a < w) : min a.toNat (w - 1) = a.toNat :=
  Nat.min_eq_left (by omega)
theorem cuu_lands (c p : Int) (hp : 0 ≤ p) (h : 0 < c - p) : c.toNat - (c - p).toNat = p.toNat := by
  have : c.toNat = (c - p).toNat + p.toNat := by rw [← Int.toNat_add (Int.le_of_lt h) hp, Int.sub_add_cancel]
  rw [this, Nat.add_sub_cancel_left]
theorem cud_lands (c p : Int) (hc : 0 ≤ c) (hlt : ¬ 0 < c - p) : c.toNat + (-(c - p)).toNat = p.toNat := by
  rw [← Int.toNat_add hc (by omega)]; congr 1; omega

/-- a parameter equal to its default is left out, and the terminal reads the default in its place (`hd` is the caller's
    condition, e.g. `¬ x ≠ 0 → x + 1 = 1` for CHA); `decInt_optional` is the library's side of the same omission -/
theorem VT.param_optional {c : Prop} [Decidable c] {n d : Nat} (hn : n ≠ 0) (hd : ¬c → n = d) :
    VT.param (if c then [n] else []) 0 d = n := by
  split
  · exact VT.param_head n [] d hn
  · rename_i h; exact (hd h).symm
theorem decInt_optional (c : Prop) [Decidable c] (i : Int) (hi : 0 ≤ i) :
    (if c then decInt i else []) = joinParams (if c then [i.toNat] else []) := by
  split
  · exact decInt_nonneg i hi
  · rfl

theorem feed_writeCUP (vt : VT) (hg : vt.ps = .ground) (d : Point) (hx : 0 ≤ d.x) (hy : 0 ≤ d.y) :
    vt.feedAll (writeCUP d) =
      { vt with cy := min d.y.toNat (vt.h - 1), cx := min d.x.toNat (vt.w - 1), pending := false } := by
  -- the terminal reads the parameter list only through its first two entries, with default 1
  have key : ∀ ps : List Nat, VT.param ps 0 1 = d.y.toNat + 1 → VT.param ps 1 1 = d.x.toNat + 1 →
      vt.feedAll (csiBytes ++ joinParams ps ++ [Consts.csi_cursor_position]) =
        { vt with cy := min d.y.toNat (vt.h - 1), cx := min d.x.toNat (vt.w - 1), pending := false } := by
    intro ps h0 h1
    rw [VT.feed_csiSeq vt hg _ _ rfl, VT.dispatch_H vt hg, h0, h1]
    rfl
  have hX := toNat_succ d.x hx
  have hY := toNat_succ d.y hy
  unfold writeCUP
  split
  · split
    · rename_i hx0
      rw [decInt_nonneg _ (by omega), hY]
      exact key [d.y.toNat + 1] rfl (by rw [hx0]; rfl)
    · rw [decInt_nonneg _ (by omega), decInt_nonneg _ (by omega), hX, hY]
      exact key [d.y.toNat + 1, d.x.toNat + 1] rfl rfl
  · rename_i h0
    obtain ⟨hx0, hy0⟩ := not_or.mp h0
    exact key [] (by rw [Decidable.not_not.mp hy0]; rfl) (by rw [Decidable.not_not.mp hx0]; rfl)

theorem feed_CUP (vt : VT) (hg : vt.ps = .ground) (d : Point) (hx : 0 ≤ d.x) (hy : 0 ≤ d.y)
    (hxw : d.x.toNat < vt.w) (hyh : d.y.toNat < vt.h) :
    vt.feedAll (writeCUP d) = { vt with cx := d.x.toNat, cy := d.y.toNat, pending := false } := by
  rw [feed_writeCUP vt hg d hx hy, Nat.min_eq_left (Nat.le_sub_one_of_lt hxw), Nat.min_eq_left (Nat.le_sub_one_of_lt hyh)]

theorem feed_CHA (vt : VT) (hg : vt.ps = .ground) (x : Int) (hx : 0 ≤ x) :
    vt.feedAll (writeCHA x) = { vt with cx := min x.toNat (vt.w - 1), pending := false } := by
  rw [writeCHA, decInt_optional _ _ (by omega), VT.feed_csiSeq vt hg _ _ rfl, VT.dispatch_G vt hg, toNat_succ x hx,
    VT.param_optional (Nat.succ_ne_zero _) (fun h => by rw [Decidable.not_not.mp h]; rfl)]
  rfl

theorem feed_CUU (vt : VT) (hg : vt.ps = .ground) (n : Int) (hn : 0 < n) :
    vt.feedAll (writeCUU n) = { vt with cy := vt.cy - n.toNat, pending := false } := by
  rw [writeCUU, decInt_optional _ _ (by omega), VT.feed_csiSeq vt hg _ _ rfl, VT.dispatch_A vt hg,
    VT.param_optional (by omega) (by omega)]

theorem feed_CUD (vt : VT) (hg : vt.ps = .ground) (n : Int) (hn : 0 < n) :
    vt.feedAll (writeCUD n) = { vt with cy := min (vt.cy + n.toNat) (vt.h - 1), pending := false } := by
  rw [writeCUD, decInt_optional _ _ (by omega), VT.feed_csiSeq vt hg _ _ rfl, VT.dispatch_B vt hg,
    VT.param_optional (by omega) (by omega)]

/-- whatever the library believes, the bytes of a move are complete cursor functions and touch only the terminal's cursor
    (the `∃`); when the belief is true and `p` inside the declared size, they land on `p` -/
theorem feed_moveCursorBytes (vt : VT) (hg : vt.ps = .ground) (s : TermState) (p : Point) (hx : 0 ≤ p.x) (hy : 0 ≤ p.y) :
    ∃ cx cy pd, vt.feedAll (moveCursorBytes s.cursor p) = { vt with cx := cx, cy := cy, pending := pd } ∧
      (AgreeCursor s vt → p.x < s.size.width → p.y < s.size.height → cx = p.x.toNat ∧ cy = p.y.toNat ∧ pd = false) := by
  have hCUP : ∃ cx cy pd, vt.feedAll (writeCUP p) = { vt with cx := cx, cy := cy, pending := pd } ∧
      (AgreeCursor s vt → p.x < s.size.width → p.y < s.size.height → cx = p.x.toNat ∧ cy = p.y.toNat ∧ pd = false) :=
    ⟨_, _, _, feed_writeCUP vt hg p hx hy, fun hC hxw hyh =>
      ⟨min_toNat_pred _ _ (hC.width ▸ hxw), min_toNat_pred _ _ (hC.height ▸ hyh), rfl⟩⟩
  unfold moveCursorBytes
  cases hc : s.cursor with
  | none => exact hCUP
  | some c =>
    simp only
    by_cases h1 : c = p
    · rw [if_pos h1]
      refine ⟨vt.cx, vt.cy, vt.pending, rfl, fun hC _ _ => ?_⟩
      obtain ⟨_, _, c3, c4, c5, _, _⟩ := hC.cursor c hc
      exact ⟨h1 ▸ c3.symm, h1 ▸ c4.symm, c5⟩
    rw [if_neg h1]
    by_cases h2 : c.y = p.y
    · rw [if_pos h2]
      refine ⟨_, vt.cy, false, feed_CHA vt hg p.x hx, fun hC hxw _ => ?_⟩
      obtain ⟨_, _, _, c4, _, _, _⟩ := hC.cursor c hc
      exact ⟨min_toNat_pred _ _ (hC.width ▸ hxw), h2 ▸ c4.symm, rfl⟩
    rw [if_neg h2]
    by_cases h3 : c.x = p.x
    · rw [if_pos h3]
      by_cases h4 : c.y - p.y > 0
      · rw [if_pos h4]
        refine ⟨vt.cx, _, false, feed_CUU vt hg _ h4, fun hC _ _ => ?_⟩
        obtain ⟨_, _, c3, c4, _, _, _⟩ := hC.cursor c hc
        exact ⟨h3 ▸ c3.symm, c4 ▸ cuu_lands c.y p.y hy h4, rfl⟩
      · rw [if_neg h4]
        refine ⟨vt.cx, _, false, feed_CUD vt hg _ (by omega), fun hC _ hyh => ?_⟩
        obtain ⟨_, c2, c3, c4, _, _, _⟩ := hC.cursor c hc
        rw [← c4, cud_lands c.y p.y c2 h4]
        exact ⟨h3 ▸ c3.symm, min_toNat_pred _ _ (hC.height ▸ hyh), rfl⟩
    · rw [if_neg h3]
      exact hCUP

theorem feed_save (vt : VT) (hg : vt.ps = .ground) :
    vt.feedAll saveCursorBytes = { vt with saved := some (vt.cx, vt.cy) } :=
  (VT.feed_csiSeq vt hg [] _ rfl).trans (VT.dispatch_s vt hg [])

theorem feed_restore (vt : VT) (hg : vt.ps = .ground) :
    vt.feedAll restoreCursorBytes =
      { vt with cx := (vt.saved.getD (0, 0)).1, cy := (vt.saved.getD (0, 0)).2, pending := false } :=
  (VT.feed_csiSeq vt hg [] _ rfl).trans ((VT.dispatch_u vt hg []).trans (by cases vt.saved <;> rfl))

theorem VT.eraseWhere_cell (vt : VT) (p : Nat → Nat → Bool) (x y : Nat) :
    (vt.eraseWhere p).cell x y = if p x y = true then vt.erasedCell else vt.cell x y := by
  simp [VT.cell, VT.eraseWhere]

theorem VT.erasedCell_reset (vt : VT) : ({ vt with rend := {} } : VT).erasedCell = Cell.blank := by
  simp only [VT.erasedCell]; cases vt.eraseMode <;> rfl

/-- the six erase manipulators clear exactly the region their name denotes -/
theorem feed_erase (vt : VT) (hg : vt.ps = .ground) (k : EraseKind) :
    vt.feedAll (csiBytes ++ eraseSuffix k) = vt.eraseWhere (eraseRegion k vt.cx vt.cy) := by
  -- display, above, below: ED 2, 1, (none); line, lineLeft, lineRight: EL 2, 1, (none)
  cases k
  · exact (VT.feed_csi_digit vt hg 2 (by decide) _ rfl).trans (VT.dispatch_J vt hg _)
  · exact (VT.feed_csi_digit vt hg 1 (by decide) _ rfl).trans (VT.dispatch_J vt hg _)
  · exact (VT.feed_csiSeq vt hg [] _ rfl).trans (VT.dispatch_J vt hg _)
  · exact (VT.feed_csi_digit vt hg 2 (by decide) _ rfl).trans ((VT.dispatch_K vt hg _).trans
      (congrArg vt.eraseWhere (by funext x y; simp [inLineRegion, eraseRegion])))
  · exact (VT.feed_csi_digit vt hg 1 (by decide) _ rfl).trans (VT.dispatch_K vt hg _)
  · exact (VT.feed_csiSeq vt hg [] _ rfl).trans (VT.dispatch_K vt hg _)

theorem Consts.dec_pm_cursor_eq : Consts.dec_pm_cursor = joinParams [25] := by simp [joinParams, decDigits, digitByte]
theorem Consts.dec_pm_alt_buffer_eq : Consts.dec_pm_use_alternate_screen_buffer = joinParams [47] := by
  simp [joinParams, decDigits, digitByte]
theorem Consts.dec_pm_basic_mouse_eq : Consts.dec_pm_basic_mouse_tracking = joinParams [1000] := by
  simp [joinParams, decDigits, digitByte]
theorem Consts.dec_pm_all_mouse_eq : Consts.dec_pm_all_motion_mouse_tracking = joinParams [1003] := by
  simp [joinParams, decDigits, digitByte]

theorem feed_setMode (vt : VT) (hg : vt.ps = .ground) (n : Nat) (on : Bool) :
    vt.feedAll (decPmBytes ++ joinParams [n] ++ (if on then Consts.dec_pm_set else Consts.dec_pm_reset)) =
      vt.setMode on n := by
  cases on
  · exact (VT.feed_decpm vt hg [n] _ rfl).trans (VT.dispatch_l vt hg [n])
  · exact (VT.feed_decpm vt hg [n] _ rfl).trans (VT.dispatch_h vt hg [n])

theorem feed_hide (vt : VT) (hg : vt.ps = .ground) :
    vt.feedAll hideCursorBytes = { vt with cursorVisible := false } := by
  rw [hideCursorBytes, Consts.dec_pm_cursor_eq]; exact feed_setMode vt hg 25 false

theorem feed_show (vt : VT) (hg : vt.ps = .ground) :
    vt.feedAll showCursorBytes = { vt with cursorVisible := true } := by
  rw [showCursorBytes, Consts.dec_pm_cursor_eq]; exact feed_setMode vt hg 25 true

theorem feed_normalBuffer (vt : VT) (hg : vt.ps = .ground) : vt.feedAll normalBufferBytes = { vt with alt := false } := by
  rw [normalBufferBytes, Consts.dec_pm_alt_buffer_eq]; exact feed_setMode vt hg 47 false

theorem feed_altBuffer (vt : VT) (hg : vt.ps = .ground) : vt.feedAll altBufferBytes = { vt with alt := true } := by
  rw [altBufferBytes, Consts.dec_pm_alt_buffer_eq]; exact feed_setMode vt hg 47 true

theorem feed_mouse (beh : Behaviour) (vt : VT) (hg : vt.ps = .ground) (on : Bool) :
    vt.feedAll (mouseBytes beh (if on then Consts.dec_pm_set else Consts.dec_pm_reset)) =
      { vt with mouse1000 := if beh.basicMouse then on else vt.mouse1000,
                mouse1003 := if beh.basicMouse then vt.mouse1003 else if beh.allMouse then on else vt.mouse1003 } := by
  unfold mouseBytes
  by_cases h1 : beh.basicMouse = true
  · rw [if_pos h1, if_pos h1, if_pos h1, Consts.dec_pm_basic_mouse_eq]; exact feed_setMode vt hg 1000 on
  rw [if_neg h1, if_neg h1, if_neg h1]
  by_cases h2 : beh.allMouse = true
  · rw [if_pos h2, if_pos h2, Consts.dec_pm_all_mouse_eq]; exact feed_setMode vt hg 1003 on
  rw [if_neg h2, if_neg h2]; rfl

theorem feed_osc_body (t : List Byte) (ht : titleClean t = true) :
    ∀ (vt : VT) (buf : List Byte), vt.ps = .osc buf → vt.feedAll t = { vt with ps := .osc (buf ++ t) } := by
  induction t with
  | nil => intro vt buf h; cases vt; simp_all
  | cons b t ih =>
    intro vt buf h
    simp only [titleClean, List.all_cons, Bool.and_eq_true, ne_eq, decide_eq_true_eq] at ht
    obtain ⟨⟨⟨⟨h1, h2⟩, _⟩, _⟩, ht'⟩ := ht
    have hstep : vt.feed b = { vt with ps := .osc (buf ++ [b]) } := by simp [VT.feed, h, h1, h2]
    rw [VT.feedAll_cons, hstep, ih (by simpa [titleClean] using ht') _ (buf ++ [b]) rfl]
    simp

theorem feed_osc_title (vt : VT) (hg : vt.ps = .ground) (t : List Byte) (ht : titleClean t = true) :
    vt.feedAll (oscBytes ++ [Consts.osc_set_window_title, Consts.ps] ++ t) = { vt with ps := .osc (0x32 :: 0x3B :: t) } := by
  have h0 : oscBytes ++ [Consts.osc_set_window_title, Consts.ps] = [0x1B, 0x5D, 0x32, 0x3B] := by decide
  have h1 : vt.feedAll [0x1B, 0x5D, 0x32, 0x3B] = { vt with ps := .osc [0x32, 0x3B] } := by simp [VT.feed, hg]
  rw [h0, VT.feedAll_append, h1, feed_osc_body t ht _ [0x32, 0x3B] rfl]
  rfl

theorem feed_titleBytes (beh : Behaviour) (vt : VT) (hg : vt.ps = .ground) (t : List Byte) (ht : titleClean t = true) :
    vt.feedAll (titleBytes beh t) = { vt with title := if beh.titleBel || beh.titleSt then t else vt.title } := by
  unfold titleBytes
  by_cases h1 : beh.titleBel = true
  · rw [if_pos h1, VT.feedAll_append, feed_osc_title vt hg t ht]
    simp [h1, VT.feed, VT.oscDone, hg]
  rw [if_neg h1]
  by_cases h2 : beh.titleSt = true
  · rw [if_pos h2, VT.feedAll_append, feed_osc_title vt hg t ht]
    simp [h2, stBytes, VT.feed, VT.oscDone, hg]
  simp [h1, h2]

/-- the status queries the oracle lets through as raw writes (the same four strings as in `Driver.opInDomain`): DSR 6,
    DSR 5, primary DA with and without parameter -/
def statusQueries : List (List Byte) :=
  [[0x1B, 0x5B, 0x36, 0x6E], [0x1B, 0x5B, 0x35, 0x6E], [0x1B, 0x5B, 0x63], [0x1B, 0x5B, 0x30, 0x63]]

/-- the reference terminal does not act on a status query: it is in exactly the same state afterwards -/
theorem feed_statusQuery (vt : VT) (hg : vt.ps = .ground) (q : List Byte) (hq : q ∈ statusQueries) : vt.feedAll q = vt := by
  simp only [statusQueries, List.mem_cons, List.mem_nil_iff, or_false] at hq
  rcases hq with rfl | rfl | rfl | rfl
  · exact (VT.feed_csi_digit vt hg 6 (by decide) _ rfl).trans (VT.dispatch_n vt hg _)
  · exact (VT.feed_csi_digit vt hg 5 (by decide) _ rfl).trans (VT.dispatch_n vt hg _)
  · exact (VT.feed_csiSeq vt hg [] _ rfl).trans (VT.dispatch_c vt hg _)
  · exact (VT.feed_csi_digit vt hg 0 (by decide) _ rfl).trans (VT.dispatch_c vt hg _)

end Tpp
