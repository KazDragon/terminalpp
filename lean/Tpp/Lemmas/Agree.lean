import Tpp.Lemmas.Glyphs
import Tpp.Lemmas.SGR
import Tpp.Model.Terminal
/-!
The agreement invariant between the library's belief (`TermState`) and the reference terminal, in two halves, and the
byte-level effect of writing one element.
-/
namespace Tpp

/-- rendition half: needs no assumption about sizes -/
structure AgreeRend (s : TermState) (vt : VT) : Prop where
  ground : vt.ps = .ground
  ok : vt.malformed = false
  /-- nothing is claimed while `last` is unknown: every write path sends SGR 0 first -/
  rend : ∀ e, s.last = some e → vt.rend = rendOf e.attr
  /-- `none` counts as US-ASCII: `write_element` diffs against `last.getD {}`, the terminal starts so (DESIGN §4
      decision 2) -/
  charset : CharsetAgree (match s.last with | some e => e.glyph.cs | none => .usAscii) vt
  visible : ∀ b, s.visible = some b → vt.cursorVisible = b

/-- cursor half: meaningful once the size has been declared -/
structure AgreeCursor (s : TermState) (vt : VT) : Prop where
  width : s.size.width = vt.w
  height : s.size.height = vt.h
  /-- no wrap pending: the next glyph lands on the cursor; inside the screen: the clamps of CUP/CHA/CUD do nothing -/
  cursor : ∀ p, s.cursor = some p →
    0 ≤ p.x ∧ 0 ≤ p.y ∧ p.x.toNat = vt.cx ∧ p.y.toNat = vt.cy ∧ vt.pending = false ∧ vt.cx < vt.w ∧ vt.cy < vt.h
  saved : ∀ p, s.saved = some p →
    0 ≤ p.x ∧ 0 ≤ p.y ∧ vt.saved = some (p.x.toNat, p.y.toNat) ∧ p.x.toNat < vt.w ∧ p.y.toNat < vt.h

def Agree (s : TermState) (vt : VT) : Prop := AgreeRend s vt ∧ AgreeCursor s vt

theorem AgreeRend.charset_some {s : TermState} {vt : VT} {l : Element} (h : AgreeRend s vt) (hl : s.last = some l) :
    CharsetAgree l.glyph.cs vt := by
  have := h.charset; rwa [hl] at this
theorem AgreeRend.charset_none {s : TermState} {vt : VT} (h : AgreeRend s vt) (hl : s.last = none) :
    CharsetAgree .usAscii vt := by
  have := h.charset; rwa [hl] at this

/-- after a step the terminal is a record update of `vt` (and the belief of `s`), so `h` cannot be used as it is; the
    fields each half reads are compared by `rfl` -/
theorem AgreeRend.congr {s s' : TermState} {vt vt' : VT} (h : AgreeRend s vt)
    (hs : (s'.last, s'.visible) = (s.last, s.visible))
    (hv : (vt'.ps, vt'.malformed, vt'.rend, vt'.g0, vt'.utf8, vt'.cursorVisible) =
      (vt.ps, vt.malformed, vt.rend, vt.g0, vt.utf8, vt.cursorVisible)) : AgreeRend s' vt' := by
  simp only [Prod.mk.injEq] at hs hv
  obtain ⟨hl, hvis⟩ := hs
  obtain ⟨e1, e2, e3, e4, e5, e6⟩ := hv
  exact ⟨e1 ▸ h.ground, e2 ▸ h.ok, hl ▸ e3 ▸ h.rend, hl ▸ h.charset.congr e4 e5, hvis ▸ e6 ▸ h.visible⟩

theorem AgreeCursor.congr {s s' : TermState} {vt vt' : VT} (h : AgreeCursor s vt)
    (hs : (s'.size, s'.cursor, s'.saved) = (s.size, s.cursor, s.saved))
    (hv : (vt'.w, vt'.h, vt'.cx, vt'.cy, vt'.pending, vt'.saved) = (vt.w, vt.h, vt.cx, vt.cy, vt.pending, vt.saved)) :
    AgreeCursor s' vt' := by
  simp only [Prod.mk.injEq] at hs hv
  obtain ⟨h1, h2, h3⟩ := hs
  obtain ⟨e1, e2, e3, e4, e5, e6⟩ := hv
  exact ⟨h1 ▸ e1 ▸ h.width, h1 ▸ e2 ▸ h.height, h2 ▸ e1 ▸ e2 ▸ e3 ▸ e4 ▸ e5 ▸ h.cursor, h3 ▸ e1 ▸ e2 ▸ e6 ▸ h.saved⟩

theorem advanceCursor_fields (s : TermState) :
    (advanceCursor s).size = s.size ∧ (advanceCursor s).last = s.last ∧ (advanceCursor s).saved = s.saved ∧
    (advanceCursor s).visible = s.visible := by
  unfold advanceCursor
  cases s.cursor with
  | none => exact ⟨rfl, rfl, rfl, rfl⟩
  | some p => simp only; split <;> exact ⟨rfl, rfl, rfl, rfl⟩

theorem advanceCursor_cursor (s : TermState) (q : Point) :
    (advanceCursor s).cursor = some q ↔ ∃ p, s.cursor = some p ∧ p.x + 1 ≠ s.size.width ∧ q = { p with x := p.x + 1 } := by
  unfold advanceCursor
  cases hc : s.cursor with
  | none => simp [hc]
  | some p => simp only; split <;> simp_all [eq_comm]

theorem cell_eq_cellOf (vt : VT) (e : Element) (hr : vt.rend = rendOf e.attr) (hc : CharsetAgree e.glyph.cs vt) :
    ({ bytes := e.glyph.text, cs := if vt.utf8 then .utf8 else vt.g0, rend := vt.rend } : Cell) = cellOf e := by
  by_cases hu : e.glyph.cs = .utf8
  · rw [cellOf, hr, charsetAgree_utf8.1 (hu ▸ hc), hu]; rfl
  · obtain ⟨h1, h2⟩ := (charsetAgree_single hu).1 hc
    rw [cellOf, hr, h1, h2]; rfl

/-- `write_element` where the rendition half holds and `last` is known: the bytes amount to re-rendering and printing
    the text -/
theorem feed_rawElement (beh : Behaviour) (s : TermState) (vt : VT) (e : Element) (hR : AgreeRend s vt)
    (hw : e.wf = true) (hk : s.last.isSome = true) :
    ∃ g0 u, vt.feedAll (rawElement beh s e).2
        = ({ vt with g0 := g0, utf8 := u, rend := rendOf e.attr } : VT).print e.glyph.text ∧
      CharsetAgree e.glyph.cs { vt with g0 := g0, utf8 := u, rend := rendOf e.attr } := by
  obtain ⟨l, hl⟩ := Option.isSome_iff_exists.mp hk
  have hg := hR.ground
  simp only [Element.wf, Bool.and_eq_true] at hw
  obtain ⟨g0, u, hfeed, hagree⟩ := feed_changeCharset beh vt hg l.glyph.cs e.glyph.cs (hR.charset_some hl)
  have hagree' : CharsetAgree e.glyph.cs { vt with g0 := g0, utf8 := u, rend := rendOf e.attr } := hagree.congr rfl rfl
  refine ⟨g0, u, ?_, hagree'⟩
  simp only [rawElement, hl, elementCtl, Option.getD_some]
  rw [VT.feedAll_append, VT.feedAll_append, hfeed,
    feed_changeAttribute { vt with g0 := g0, utf8 := u } hg l.attr e.attr hw.2 (hR.rend l hl),
    payload_eq_text _ hw.1, feed_text { vt with g0 := g0, utf8 := u, rend := rendOf e.attr } hg e.glyph hw.1 hagree']

end Tpp
