import Tpp.Lemmas.MarkupLoop
import Tpp.Lemmas.MarkupCanonical
import Tpp.Props.C18
/-! What the decoder does on the printed form of one directive, one glyph spelling, one text.
The designator lookup of the decoder IS property C18, hence the import of `Tpp.Props.C18`. -/
namespace Tpp.Markup
open Tpp.Ref

def ground : Layer → Ground | .fg => .fg | .bg => .bg

theorem read_low : ∀ d : Fin 10, digit10 (decDigit d) = UInt8.ofNat d := by decide +kernel

theorem read_high : ∀ r g b : Fin 6,
    Colour.ofHigh (digit10 (decDigit r)) (digit10 (decDigit g)) (digit10 (decDigit b))
      = .high (UInt8.ofNat (16 + 36 * r + 6 * g + b)) := by decide +kernel

theorem read_grey : ∀ n : Fin 24,
    Colour.ofGrey (digit10 (decDigit (n / 10)) * 10 + digit10 (decDigit n)) = .grey (UInt8.ofNat (232 + n)) := by
  decide +kernel

theorem read_code : ∀ b : Byte,
    (digit10 (decDigit (b.toNat / 100)) * 10 + digit10 (decDigit (b.toNat / 10))) * 10 + digit10 (decDigit b.toNat) = b := by
  decide +kernel

theorem digit16_print : ∀ (v : Fin 16) (u : Bool), digit16 (Hex.print ⟨v, u⟩) = UInt8.ofNat v.val := by decide +kernel

theorem byte_of_nibbles : ∀ a b : Fin 16, (UInt8.ofNat a.val <<< 4) ||| UInt8.ofNat b.val = UInt8.ofNat (16 * a.val + b.val) := by
  decide +kernel

theorem true_byte (hi lo : Hex) : (digit16 hi.print <<< 4) ||| digit16 lo.print = hexByte hi lo := by
  cases hi; cases lo
  simp only [digit16_print, byte_of_nibbles, hexByte]

theorem designators_shape : ∀ d : Fin 24, Props.C18.designatorShaped (designatorBytes d) = true := by decide +kernel
theorem designators_not_utf8 : ∀ d : Fin 24, scsLookup (designatorBytes d) ≠ some .utf8 := by decide +kernel

theorem parseLoop_designator {l : List Byte} (h : Props.C18.designatorShaped l = true) {rest : List Byte} {sc : Scratch}
    {e : Element} : parseLoop (l ++ rest) .charset sc e = parseLoop rest .idle sc (applyLookup (scsLookup l) e) := by
  rw [← Props.C18.lookupCharset_of_shaped h]
  obtain ⟨b, rfl, hb⟩ | ⟨b, rfl⟩ := Props.C18.designatorShaped_cases h
  · exact parseLoop_charset b hb
  · exact parseLoop_charsetExt b

theorem decode_directive (d : Directive) (rest : List Byte) (sc : Scratch) (e : Element) :
    ∃ sc', parseLoop (d.print ++ rest) .idle sc e = parseLoop rest .idle sc' (d.apply e) := by
  cases d with
  | charset d =>
    exact ⟨sc, (parseLoop_escape _).trans ((parseLoop_designator (designators_shape d)).trans rfl)⟩
  -- effects and `reset`: one step beyond `parseLoop_escape`, the handler computes on the literal byte
  | intensity i => exact ⟨sc, by cases i <;> exact parseLoop_escape _⟩
  | polarity p => exact ⟨sc, by cases p <;> exact parseLoop_escape _⟩
  | underlining u => exact ⟨sc, by cases u <;> exact parseLoop_escape _⟩
  | low l d =>
    have h := @parseLoop_low rest sc e (ground l) (decDigit d)
    rw [read_low] at h
    exact ⟨sc, by cases l <;> exact (parseLoop_escape _).trans h⟩
  | high l r g b =>
    obtain ⟨sc', h⟩ := @parseLoop_high rest sc e (ground l) (decDigit r) (decDigit g) (decDigit b)
    rw [read_high] at h
    exact ⟨sc', by cases l <;> exact (parseLoop_escape _).trans h⟩
  | grey l n =>
    obtain ⟨sc', h⟩ := @parseLoop_grey rest sc e (ground l) (decDigit (n / 10)) (decDigit n)
    rw [read_grey] at h
    exact ⟨sc', by cases l <;> exact (parseLoop_escape _).trans h⟩
  | rgb l r1 r0 g1 g0 b1 b0 =>
    obtain ⟨sc', h⟩ := @parseLoop_true rest sc e (ground l) r1.print r0.print g1.print g0.print b1.print b0.print
    rw [true_byte, true_byte, true_byte] at h
    exact ⟨sc', by cases l <;> exact (parseLoop_escape _).trans h⟩
  | reset => exact ⟨sc, parseLoop_escape _⟩

theorem decode_directives (ds : List Directive) : ∀ (rest : List Byte) (sc : Scratch) (e : Element),
    ∃ sc', parseLoop (ds.flatMap Directive.print ++ rest) .idle sc e = parseLoop rest .idle sc' (ds.foldl Directive.apply e) := by
  induction ds with
  | nil => intro rest sc e; exact ⟨sc, rfl⟩
  | cons d ds ih =>
    intro rest sc e
    obtain ⟨sc1, h1⟩ := decode_directive d (ds.flatMap Directive.print ++ rest) sc e
    obtain ⟨sc2, h2⟩ := ih rest sc1 (d.apply e)
    refine ⟨sc2, ?_⟩
    simp only [List.flatMap_cons, List.append_assoc, List.foldl_cons]
    rw [h1, h2]

/-- `GlyphSp.apply`, except that a byte glyph keeps the old `b1`, `b2` -/
def storeGlyph (e : Element) : GlyphSp → Element
  | .lit b | .code b => setChar b e
  | .uni h3 h2 h1 h0 => { e with glyph := utf8GlyphOf (codePointOf h3 h2 h1 h0) }

theorem hexWord_print (h : Hex) : hexWord h.print = UInt16.ofNat h.v.val := by
  have k : ∀ v : Fin 16, (UInt8.ofNat v.val).toUInt16 = UInt16.ofNat v.val := by decide
  cases h with
  | mk v u => simp [hexWord, digit16_print, k]

theorem utf8Glyph_eq (v : Nat) (h : v < 65536) : utf8Glyph v = utf8GlyphOf v := by
  -- the two definitions spell the same three ranges with `≤` and with `<`
  have h1 : v ≤ 0x7F ↔ v < 0x80 := by omega
  have h2 : v ≤ 0x7FF ↔ v < 0x800 := by omega
  have h3 : v ≤ 0xFFFF := by omega
  simp only [utf8Glyph, utf8GlyphOf, Ref.utf8, h1, h2, h3, if_true]
  split
  · next a => rw [Nat.mod_eq_of_lt a]; rfl
  · split <;> rfl

theorem codePointOf_lt (h3 h2 h1 h0 : Hex) : codePointOf h3 h2 h1 h0 < 65536 := by
  unfold codePointOf; omega

-- all in `UInt16.ofNat`; four hex digits fit, so the `% 65536` of `toNat` does nothing
theorem hexWord_codePoint (h3 h2 h1 h0 : Hex) :
    (((hexWord h3.print * 16 + hexWord h2.print) * 16 + hexWord h1.print) * 16 + hexWord h0.print).toNat
      = codePointOf h3 h2 h1 h0 := by
  simp only [hexWord_print, show (16 : UInt16) = UInt16.ofNat 16 from rfl, ← UInt16.ofNat_mul, ← UInt16.ofNat_add,
    UInt16.toNat_ofNat', codePointOf]
  omega

theorem decode_glyph (g : GlyphSp) (rest : List Byte) (sc : Scratch) (e : Element) :
    parseLoop (g.print ++ rest) .idle sc e = (storeGlyph e g, rest) := by
  cases g with
  | lit b =>
    by_cases hb : b = Ref.bs
    · rw [GlyphSp.print, if_pos hb, hb]
      exact (parseLoop_escape _).trans (parseLoop_done rest sc _)
    · rw [GlyphSp.print, if_neg hb]
      exact parseLoop_literal b hb
  | code b =>
    refine (parseLoop_escape _).trans ((parseLoop_charcode _ _ _).trans ?_)
    rw [read_code]; rfl
  | uni h3 h2 h1 h0 =>
    refine (parseLoop_escape _).trans ((parseLoop_utf _ _ _ _).trans ?_)
    rw [hexWord_codePoint, utf8Glyph_eq _ (codePointOf_lt _ _ _ _)]; rfl

theorem glyph_print_ne_nil (g : GlyphSp) : g.print ≠ [] := by
  cases g with
  | lit b => simp only [GlyphSp.print]; split <;> simp
  | code b | uni => simp [GlyphSp.print]

theorem spelling_print_ne_nil (sp : Spelling) (rest : List Byte) : sp.print ++ rest ≠ [] := by
  have := glyph_print_ne_nil sp.glyph
  simp [Spelling.print, this]

/-- glyph bytes blanked: directives commute with it, and `strip (elementWithBase p) = startFrom p` -/
def strip (e : Element) : Element :=
  { glyph := { b0 := 0x20, b1 := 0, b2 := 0, cs := e.glyph.cs }, attr := e.attr }

theorem strip_elementWithBase (prev : Element) : strip (elementWithBase prev) = startFrom prev := rfl

theorem strip_apply (d : Directive) (e : Element) : strip (d.apply e) = d.apply (strip e) := by
  cases d with
  | charset d => simp only [Directive.apply]; cases scsLookup (designatorBytes d) <;> rfl
  | low l _ | high l _ _ _ | grey l _ | rgb l _ _ _ _ _ _ => cases l <;> rfl
  | _ => rfl

theorem strip_foldl (ds : List Directive) (e : Element) :
    strip (ds.foldl Directive.apply e) = ds.foldl Directive.apply (strip e) :=
  (List.foldl_hom strip (fun e d => (strip_apply d e).symm)).symm

theorem apply_not_utf8 (d : Directive) (e : Element) (h : e.glyph.cs ≠ .utf8) : (d.apply e).glyph.cs ≠ .utf8 := by
  cases d with
  | charset d =>
    simp only [Directive.apply]
    have := designators_not_utf8 d
    cases hc : scsLookup (designatorBytes d) with
    | none => exact h
    | some cs => exact fun hcs => this (hc.trans (congrArg some hcs))
  | _ => rw [attr_apply_glyph _ e (fun _ => Directive.noConfusion)]; exact h

theorem foldl_not_utf8 (ds : List Directive) (e : Element) (h : e.glyph.cs ≠ .utf8) :
    (ds.foldl Directive.apply e).glyph.cs ≠ .utf8 :=
  List.foldlRecOn (motive := fun e => e.glyph.cs ≠ .utf8) ds _ h fun e he d _ => apply_not_utf8 d e he

theorem elementWithBase_not_utf8 (prev : Element) : (elementWithBase prev).glyph.cs ≠ .utf8 := by
  unfold elementWithBase
  by_cases h : prev.glyph.cs = .utf8 <;> simp [h]

theorem norm_storeGlyph (g : GlyphSp) (e : Element) (h : e.glyph.cs ≠ .utf8) :
    norm (storeGlyph e g) = g.apply (strip e) := by
  cases g with
  | lit b | code b => simp [storeGlyph, norm_eq, setChar, h, GlyphSp.apply, strip]
  | uni h3 h2 h1 h0 => simp [storeGlyph, norm_eq, GlyphSp.apply, strip, utf8GlyphOf]

theorem parseElement_spelling (sp : Spelling) (rest : List Byte) (prev : Element) :
    parseElement (sp.print ++ rest) prev =
      (storeGlyph (sp.directives.foldl Directive.apply (elementWithBase prev)) sp.glyph, rest) := by
  unfold parseElement Spelling.print
  obtain ⟨sc', h⟩ := decode_directives sp.directives (sp.glyph.print ++ rest) {} (elementWithBase prev)
  rw [List.append_assoc, h, decode_glyph]

theorem decode_spelling (sp : Spelling) (rest : List Byte) (prev : Element) :
    (parseElement (sp.print ++ rest) prev).2 = rest ∧
    norm (parseElement (sp.print ++ rest) prev).1 = denote sp prev := by
  rw [parseElement_spelling]
  refine ⟨rfl, ?_⟩
  rw [norm_storeGlyph _ _ (foldl_not_utf8 _ _ (elementWithBase_not_utf8 prev)), strip_foldl, strip_elementWithBase]
  rfl

theorem encodeFrom_spellings (sps : List Spelling) : ∀ prev : Element,
    (encodeFrom (sps.flatMap Spelling.print) prev).map norm = denoteFrom sps prev := by
  induction sps with
  | nil => intro prev; simp [encodeFrom_nil, denoteFrom]
  | cons sp r ih =>
    intro prev
    simp only [List.flatMap_cons]
    rw [encodeFrom_of_ne_nil _ _ (spelling_print_ne_nil sp _)]
    obtain ⟨h2, h1⟩ := decode_spelling sp (r.flatMap Spelling.print) prev
    simp only [List.map_cons, denoteFrom, h2, h1, ih]
    congr 1
    apply denoteFrom_congr
    rw [← h1, startFrom_norm]

theorem parseElement_plain (b : Byte) (bs : List Byte) (prev : Element) (hb : b ≠ 0x5C)
    (hp : elementWithBase prev = elementWithBase {}) : parseElement (b :: bs) prev = (plainElement b, bs) := by
  rw [parseElement, hp]; exact parseLoop_literal b hb

theorem encodeFrom_plain (bs : List Byte) (h : (0x5C : Byte) ∉ bs) : ∀ prev : Element,
    elementWithBase prev = elementWithBase {} → encodeFrom bs prev = bs.map plainElement := by
  induction bs with
  | nil => intro prev _; simp [encodeFrom_nil]
  | cons b bs ih =>
    intro prev hp
    have hb : b ≠ 0x5C := fun hb => h (by simp [hb])
    have hr : (0x5C : Byte) ∉ bs := fun hr => h (List.mem_cons_of_mem _ hr)
    rw [encodeFrom_of_ne_nil _ _ (List.cons_ne_nil _ _), parseElement_plain b bs prev hb hp]
    simp only [List.map_cons]
    rw [ih hr (plainElement b) rfl]

/-- the library's `==` compares meaningful values -/
theorem elementEq_iff (a b : Element) : elementEq a b = true ↔ norm a = norm b := by
  obtain ⟨⟨a0, a1, a2, ac⟩, aa⟩ := a
  obtain ⟨⟨b0, b1, b2, bc⟩, ba⟩ := b
  -- is either side UTF-8?  `glyphEq` compares `b1`, `b2` only then, `norm` zeroes them otherwise; `grind` reassociates conjunctions
  by_cases hu : ac = .utf8 <;> by_cases hv : bc = .utf8 <;>
    simp [elementEq, glyphEq, norm_eq, hu, hv] <;> grind

theorem stringEq_iff : ∀ (as bs : List Element), stringEq as bs = true ↔ as.map norm = bs.map norm
  | [], [] | [], _ :: _ | _ :: _, [] => by simp [stringEq]
  | a :: as, b :: bs => by
    simp only [stringEq, Bool.and_eq_true, elementEq_iff, stringEq_iff as bs, List.map_cons, List.cons.injEq]

/-- by way of the decoder: what a text denotes is the normal form of what it decodes to -/
theorem denoteFrom_normal (sps : List Spelling) (prev : Element) : (denoteFrom sps prev).map norm = denoteFrom sps prev := by
  rw [← encodeFrom_spellings, List.map_map, show norm ∘ norm = norm from funext norm_idem]

theorem norm_attr (e : Element) : (norm e).attr = e.attr := rfl

/-- `f` is an observer blind to unused storage (`·.attr`, `·.glyph.cs`), read at the last decoded element: that element
    is its spelling applied to the normal form of the one before -/
theorem observed_snoc {α} (f : Element → α) (hf : ∀ x, f (norm x) = f x) (sps : List Spelling) (sp : Spelling) :
    (encode ((sps ++ [sp]).flatMap Spelling.print)).map f =
      (encode (sps.flatMap Spelling.print)).map f ++
        [f (denote sp (norm ((encode (sps.flatMap Spelling.print)).getLast?.getD {})))] := by
  have hn (l : List Element) : (l.map norm).map f = l.map f := by rw [List.map_map, show f ∘ norm = f from funext hf]
  unfold encode
  rw [← hn, encodeFrom_spellings, denoteFrom_snoc, ← encodeFrom_spellings, List.map_append, hn, List.getLast?_map]
  cases (encodeFrom (sps.flatMap Spelling.print) {}).getLast? <;> rfl

end Tpp.Markup
