import Tpp.Model.Reads
import Tpp.Model.Keys
/-! Invariant of a client that keeps a window of reads posted (`Tpp.Model.Reads`). -/
namespace Tpp

theorem RState.postN_eq (k : Nat) : ∀ s : RState,
    RState.postN k s = { s with posted := s.posted ++ List.range' s.next k, next := s.next + k } := by
  induction k with
  | zero => intro s; simp [RState.postN]
  | succ k ih => intro s; simp [RState.postN, ih, RState.post, List.range'_succ, Nat.add_assoc, Nat.add_comm 1 k]

theorem RState.deliverAll_cons (s : RState) (c : List Byte) (cs : List (List Byte)) :
    s.deliverAll (c :: cs) = (s.deliver c).deliverAll cs := rfl

theorem RState.deliverAll_of_none_posted (cs : List (List Byte)) : ∀ s : RState, s.posted = [] →
    s.deliverAll cs = { s with lost := s.lost ++ cs } := by
  induction cs with
  | nil => intro s _; simp [RState.deliverAll]
  | cons c cs ih =>
    intro s hs
    have h1 : s.deliver c = { s with lost := s.lost ++ [c] } := by simp [RState.deliver, hs]
    rw [RState.deliverAll_cons, h1, ih { s with lost := s.lost ++ [c] } hs]; simp

theorem deliverAll_snoc (done : List (List Byte)) (data : List Byte) : ∀ st0 : PState,
    (deliverAll (done ++ [data]) st0).tokenLists = (deliverAll done st0).tokenLists ++ [tokens (feedAll done.flatten st0) data] := by
  induction done with
  | nil => intro st0; simp [deliverAll_cons, deliverAll_nil, feedAll]
  | cons c cs ih => intro st0; simp [deliverAll_cons, ih, feedAll_append]

/-- the invariant of a client with a window of `k ≥ 1` reads after the deliveries `done`: the posted reads are the `k`
    consecutive ids after the ones served, nothing was lost, and the handlers served so far are the reads `0, 1, …` in
    order, each with the tokens of its own delivery -/
structure Windowed (k : Nat) (st0 : PState) (done : List (List Byte)) (s : RState) : Prop where
  posted : s.posted = List.range' done.length k
  next : s.next = done.length + k
  parser : s.parser = feedAll done.flatten st0
  ids : s.served.map (·.1) = List.range' 0 done.length
  toks : s.served.map (·.2) = (deliverAll done st0).tokenLists
  lost : s.lost = []

theorem windowed_init (k : Nat) (st0 : PState) : Windowed k st0 [] (RState.postN k { parser := st0 }) := by
  rw [RState.postN_eq]
  exact ⟨by simp, by simp, rfl, rfl, rfl, rfl⟩

theorem windowed_deliver (k : Nat) (hk : 1 ≤ k) (st0 : PState) (done : List (List Byte)) (s : RState)
    (h : Windowed k st0 done s) (data : List Byte) : Windowed k st0 (done ++ [data]) (s.deliver data) := by
  obtain ⟨hp, hn, hpar, hids, htoks, hlost⟩ := h
  obtain ⟨k', rfl⟩ : ∃ k', k = k' + 1 := ⟨k - 1, by omega⟩
  have hpost : s.posted = done.length :: List.range' (done.length + 1) k' := by rw [hp, List.range'_succ]
  have hd : s.deliver data =
      { s with parser := feedAll data s.parser, posted := List.range' (done.length + 1) k' ++ [s.next], next := s.next + 1,
               served := s.served ++ [(done.length, tokens s.parser data)] } := by
    simp only [RState.deliver, hpost, RState.post]
  rw [hd]
  refine ⟨?_, ?_, ?_, ?_, ?_, ?_⟩
  · simp only [List.length_append, List.length_cons, List.length_nil, hn]
    rw [show done.length + (k' + 1) = (done.length + 1) + 1 * k' by omega, show done.length + (0 + 1) = done.length + 1 by omega,
      ← List.range'_concat]
  · simp only [List.length_append, List.length_cons, List.length_nil, hn]; omega
  · simp only [List.flatten_append, List.flatten_cons, List.flatten_nil, List.append_nil, feedAll_append, hpar]
  · simp only [List.map_append, List.map_cons, List.map_nil, hids, List.length_append, List.length_cons, List.length_nil]
    rw [show done.length + (0 + 1) = done.length + 1 by omega, List.range'_concat]
    simp
  · simp only [List.map_append, List.map_cons, List.map_nil, htoks, deliverAll_snoc, hpar]
  · exact hlost

theorem windowed_run (k : Nat) (hk : 1 ≤ k) (st0 : PState) (rest : List (List Byte)) :
    ∀ (done : List (List Byte)) (s : RState), Windowed k st0 done s → Windowed k st0 (done ++ rest) (s.deliverAll rest) := by
  induction rest with
  | nil => intro done s h; simpa [RState.deliverAll] using h
  | cons c cs ih =>
    intro done s h
    have := ih (done ++ [c]) (s.deliver c) (windowed_deliver k hk st0 done s h c)
    simpa [RState.deliverAll_cons, List.append_assoc] using this

end Tpp
