import Tpp.Lemmas.Input
/-!
Faithfulness of decoded control sequences to the input: a control sequence the decoder reports (without a private
marker) re-renders – introducer, parameters separated by `;`, final byte – to a contiguous piece of the bytes that
were actually fed.  Invariant over the scratch members, by induction over the stream.
-/
namespace Tpp

/-- bytes of the parameters collected so far: every completed argument followed by `;`, then the one in progress -/
def partialBody (args : List (List Byte)) (arg : List Byte) : List Byte := args.flatMap (· ++ [0x3B]) ++ arg

/-- parameters separated by `;`, then the final byte -/
def renderBody (c : CtrlSeq) : List Byte := (List.intersperse [0x3B] c.args).flatten ++ [c.command]

/-- the byte strings taken as spellings of `c`: meta ESC if flagged, 7-bit introducer or (CSI / SS3) the 8-bit one, body.
    The meta ESC stands before the 8-bit introducer too, which the protocol does not define and the decoder does not read
    as meta; `IntroOK` never offers that combination. -/
def renderings (c : CtrlSeq) : List (List Byte) :=
  let pre : List Byte := if c.metaFlag then [0x1B] else []
  ((if c.initiator = 0x5B then [[0x9B]] else if c.initiator = 0x4F then [[0x8F]] else []) ++ [[0x1B, c.initiator]]).map
    fun it => pre ++ it ++ renderBody c

theorem partialBody_eq_render (args : List (List Byte)) (arg : List Byte) :
    (List.intersperse [0x3B] (args ++ [arg])).flatten = partialBody args arg := by
  induction args with
  | nil => simp [partialBody]
  | cons a as ih =>
    cases as with
    | nil => simp [partialBody, List.intersperse]
    | cons b bs =>
      simp only [List.cons_append, List.intersperse, partialBody, List.flatMap_cons] at ih ⊢
      simp only [List.flatten_cons, ih]
      simp [List.append_assoc]

theorem partialBody_digit (args : List (List Byte)) (arg : List Byte) (b : Byte) :
    partialBody args (arg ++ [b]) = partialBody args arg ++ [b] := (List.append_assoc ..).symm

theorem partialBody_ps (args : List (List Byte)) (arg : List Byte) :
    partialBody (args ++ [arg]) [] = partialBody args arg ++ [0x3B] := by
  simp [partialBody]

/-- which introducer bytes are consistent with the scratch -/
def IntroOK (s : PState) (intro : List Byte) : Prop :=
  intro = (if s.metaFlag then [0x1B] else []) ++ [0x1B, s.initializer]
  ∨ (s.metaFlag = false ∧ s.initializer = 0x5B ∧ intro = [0x9B])
  ∨ (s.metaFlag = false ∧ s.initializer = 0x4F ∧ intro = [0x8F])

/-- the scratch members describe the tail of the bytes seen so far – in the arguments state only while `extender = 0`: the
    decoder records THAT a marker came, not WHERE (`ESC [ ? 1 A` and `ESC [ 1 ? A` leave the same scratch), so a marked
    sequence cannot be re-rendered. -/
def Faithful (seen : List Byte) (s : PState) : Prop :=
  match s.ctl with
  | .escape => s.extender = 0 ∧ s.args = [] ∧ s.arg = [] ∧
      ∃ pre, seen = pre ++ [0x1B] ∧ (s.metaFlag = true → ∃ pre', pre = pre' ++ [0x1B])
  | .arguments => s.extender = 0 → ∃ pre intro, seen = pre ++ intro ++ partialBody s.args s.arg ∧ IntroOK s intro
  | _ => True

/-- C20, one byte -/
theorem faithful_feed (seen : List Byte) (s : PState) (b : Byte) (hF : Faithful seen s) :
    Faithful (seen ++ [b]) (s.feed b).1 ∧
    ∀ c, (s.feed b).2 = some (.ctrl c) → c.extender = 0 → ∃ r ∈ renderings c, r <:+: seen ++ [b] := by
  constructor
  · refine feed_cases s b fun c f hc hf => ?_
    simp only [Faithful, hc] at hF
    cases hf <;> simp only [Faithful, PState.reset, reduceCtorEq, false_imp_iff, and_true] at hF ⊢
    case esc hb _ => exact ⟨trivial, trivial, trivial, seen, by rw [hb]⟩
    case csi hb _ => exact fun _ => ⟨seen, [0x9B], by rw [hb]; exact (List.append_nil _).symm, .inr (.inl ⟨rfl, rfl, rfl⟩)⟩
    case ss3 hb _ => exact fun _ => ⟨seen, [0x8F], by rw [hb]; exact (List.append_nil _).symm, .inr (.inr ⟨rfl, rfl, rfl⟩)⟩
    case escEsc hb =>
      obtain ⟨he, ha, hg, pre, hseen, _⟩ := hF
      exact ⟨he, ha, hg, seen, by rw [hb], fun _ => ⟨pre, hseen⟩⟩
    case intro hb =>
      obtain ⟨_, ha, hg, pre, hseen, hmeta⟩ := hF
      intro _
      simp only [ha, hg, partialBody, List.flatMap_nil, List.append_nil, IntroOK]
      cases hm : s.metaFlag with
      | false => exact ⟨pre, [0x1B, b], by simp [hseen], .inl rfl⟩
      | true =>
        obtain ⟨pre', hp⟩ := hmeta hm
        exact ⟨pre', [0x1B, 0x1B, b], by simp [hseen, hp], .inl rfl⟩
    case digit =>
      intro he
      obtain ⟨pre, intro, hs, hi⟩ := hF he
      exact ⟨pre, intro, by rw [hs, partialBody_digit, List.append_assoc _ _ [b]], hi⟩
    case ps hb =>
      intro he
      obtain ⟨pre, intro, hs, hi⟩ := hF he
      exact ⟨pre, intro, by rw [hs, partialBody_ps, hb, List.append_assoc _ _ [0x3B]], hi⟩
    -- a marker byte is not 0: from here on the invariant is vacuous
    case ext hb => rintro rfl; cases hb
    case final => rcases s.finish_eq b with ⟨_, _, h⟩ | h <;> rw [h] <;> trivial
  · intro c ht hext
    obtain h | ⟨_, h⟩ | ⟨_, h⟩ | ⟨hc, h⟩ := feed_emits ht <;> cases h
    simp only [Faithful, hc] at hF
    obtain ⟨pre, intro, hs, hi⟩ := hF hext
    have hbody : renderBody (s.seq b) = partialBody s.args s.arg ++ [b] := by
      simp [renderBody, PState.seq, partialBody_eq_render]
    refine ⟨intro ++ (partialBody s.args s.arg ++ [b]), ?_, ⟨pre, [], by simp [hs, List.append_assoc]⟩⟩
    simp only [renderings, List.mem_map, hbody]
    rcases hi with hi | ⟨h1, h2, h3⟩ | ⟨h1, h2, h3⟩
    · exact ⟨[0x1B, s.initializer], by simp [PState.seq], by rw [hi]; rfl⟩
    · exact ⟨[0x9B], by simp [PState.seq, h2], by simp [PState.seq, h1, h3]⟩
    · exact ⟨[0x8F], by simp [PState.seq, h2], by simp [PState.seq, h1, h3]⟩

/-- C20, a stream -/
theorem faithful_rawTokens (bs : List Byte) : ∀ (seen : List Byte) (s : PState), Faithful seen s →
    ∀ c, Token.ctrl c ∈ rawTokens bs s → c.extender = 0 → ∃ r ∈ renderings c, r <:+: seen ++ bs := by
  intro seen s hF c hmem hext
  obtain ⟨pre, x, suf, s', rfl, hs', ht⟩ :=
    rawTokens_mem (fun seen s x h => (faithful_feed seen s x h).1) bs seen s hF _ hmem
  obtain ⟨r, hr, a, b, hab⟩ := (faithful_feed _ s' x hs').2 c ht hext
  exact ⟨r, hr, a, b ++ suf, by rw [← List.append_assoc, hab]; simp⟩

/-- the form C20 quotes: for the client's tokens, from an idle decoder -/
theorem faithful_tokens {st : PState} (hidle : st.ctl = .idle) {bs : List Byte} {t : Token} {c : CtrlSeq}
    (ht : t ∈ tokens st bs) (hc : t.seq? = some c) (he : c.extender = 0) : ∃ r ∈ renderings c, r <:+: bs := by
  simpa using faithful_rawTokens bs [] st (by simp [Faithful, hidle]) c (tokens_seq? ht hc).2 he

end Tpp
