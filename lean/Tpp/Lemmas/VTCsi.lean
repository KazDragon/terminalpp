import Tpp.Ref.VT
import Tpp.Model.Encoder
/-!
Control sequences `CSI params final` in the reference terminal: what `VT.feed` does in the CSI state on each class of
byte, hence that a complete sequence hands exactly its parameters to `VT.dispatch`; then the equations of `VT.dispatch`,
one per final byte the library emits or the oracle lets through as a status query (`n`, `c`), and of `VT.param`.
-/
namespace Tpp

def isFinal (b : Byte) : Bool := 0x40 ≤ b && b ≤ 0x7E

/-- the final bytes lie above the digits, `;` and `?` -/
theorem final_other_class (b : Byte) (h : isFinal b = true) : isDigit b = false ∧ b ≠ 0x3B ∧ b ≠ 0x3F := by
  simp only [isFinal, isDigit, Bool.and_eq_true, decide_eq_true_eq, Bool.and_eq_false_imp, decide_eq_false_iff_not, ne_eq,
    UInt8.le_iff_toNat_le, ← UInt8.toNat_inj, UInt8.toNat_ofNat] at h ⊢
  omega

theorem VT.feed_digit (vt : VT) (priv params cur) (h : vt.ps = .csi priv params cur) (d : Byte) (hd : isDigit d = true) :
    vt.feed d = { vt with ps := .csi priv params (some (cur.getD 0 * 10 + digitVal d)) } := by
  simp only [VT.feed, h, hd, if_true]

theorem VT.feed_final (vt : VT) (priv params cur) (h : vt.ps = .csi priv params cur) (fin : Byte) (hf : isFinal fin = true) :
    vt.feed fin = vt.dispatch priv
      (match cur with | some c => params ++ [c] | none => if params.isEmpty then [] else params ++ [0]) fin := by
  obtain ⟨hnd, hns, hnq⟩ := final_other_class fin hf
  simp only [VT.feed, h, hnd, hns, hnq, if_false, Bool.false_eq_true]
  rw [if_pos (by simpa [isFinal] using hf)]
  cases cur <;> rfl

theorem VT.dispatch_ps (vt : VT) (x : PS) (priv ps fin) : ({ vt with ps := x } : VT).dispatch priv ps fin = vt.dispatch priv ps fin := rfl

theorem VT.feed_digits (vt : VT) (priv params) (ds : List Byte) (hd : ∀ b ∈ ds, isDigit b = true) :
    ∀ cur, vt.ps = .csi priv params cur → ds ≠ [] →
      (vt.feedAll ds) = { vt with ps := .csi priv params (some (parseDec ds (cur.getD 0))) } := by
  induction ds generalizing vt with
  | nil => intro cur _ h; exact absurd rfl h
  | cons d ds ih =>
    intro cur hps _
    rw [VT.feedAll_cons, VT.feed_digit vt priv params cur hps d (hd d (by simp))]
    by_cases hds : ds = []
    · subst hds; rfl
    · exact ih { vt with ps := .csi priv params (some (cur.getD 0 * 10 + digitVal d)) } (fun b hb => hd b (by simp [hb])) _ rfl hds

theorem VT.feed_number (vt : VT) (priv params) (n : Nat) (h : vt.ps = .csi priv params none) :
    vt.feedAll (decDigits n) = { vt with ps := .csi priv params (some n) } := by
  rw [VT.feed_digits vt priv params (decDigits n) (decDigits_all_digits n) none h (decDigits_ne_nil n)]
  simp [parseDec_zero_decDigits]

theorem Consts.ps_eq : (Consts.ps : Byte) = 0x3B := by decide

theorem VT.feed_sep (vt : VT) (priv params cur) (h : vt.ps = .csi priv params cur) :
    vt.feed Consts.ps = { vt with ps := .csi priv (params ++ [cur.getD 0]) none } := by
  simp [Consts.ps_eq, VT.feed, h, isDigit]

/-- `acc` is there for the induction; with `acc ≠ []` an empty `ps` would read as `[0]` -/
theorem VT.feed_params (ps : List Nat) (hne : ps ≠ []) (fin : Byte) (hf : isFinal fin = true) :
    ∀ (vt : VT) (priv) (acc : List Nat), vt.ps = .csi priv acc none →
      vt.feedAll (joinParams ps ++ [fin]) = vt.dispatch priv (acc ++ ps) fin := by
  induction ps with
  | nil => exact absurd rfl hne
  | cons p rest ih =>
    intro vt priv acc hps
    cases rest with
    | nil =>
      rw [joinParams, VT.feedAll_append, VT.feed_number vt priv acc p hps, VT.feedAll_cons, VT.feedAll_nil,
        VT.feed_final _ priv acc (some p) rfl fin hf]
      rfl
    | cons q rest' =>
      rw [joinParams, List.append_assoc, List.append_assoc, VT.feedAll_append, VT.feed_number vt priv acc p hps,
        List.singleton_append, VT.feedAll_cons, VT.feed_sep _ priv acc (some p) rfl,
        ih (by simp) _ priv (acc ++ [p]) rfl, List.append_assoc]
      rfl

theorem csiBytes_eq : csiBytes = [0x1B, 0x5B] := by decide

theorem VT.feed_csiBytes (vt : VT) (hg : vt.ps = .ground) : vt.feedAll csiBytes = { vt with ps := .csi none [] none } := by
  simp [csiBytes_eq, VT.feed, hg]

theorem VT.feed_decPmBytes (vt : VT) (hg : vt.ps = .ground) : vt.feedAll decPmBytes = { vt with ps := .csi (some 0x3F) [] none } := by
  rw [decPmBytes, VT.feedAll_append, VT.feed_csiBytes vt hg]
  simp [Consts.dec_private_mode, VT.feed, isDigit]

/-- parameter string and final byte from a fresh CSI state, `ps = []` included -/
theorem VT.feed_seq (vt : VT) (priv) (h : vt.ps = .csi priv [] none) (ps : List Nat) (fin : Byte) (hf : isFinal fin = true) :
    vt.feedAll (joinParams ps ++ [fin]) = vt.dispatch priv ps fin := by
  cases ps with
  | nil => rw [joinParams, List.nil_append, VT.feedAll_cons, VT.feedAll_nil, VT.feed_final vt priv [] none h fin hf]; rfl
  | cons p ps => exact VT.feed_params _ (by simp) fin hf vt priv [] h

theorem VT.feed_csiSeq (vt : VT) (hg : vt.ps = .ground) (ps : List Nat) (fin : Byte) (hf : isFinal fin = true) :
    vt.feedAll (csiBytes ++ joinParams ps ++ [fin]) = vt.dispatch none ps fin := by
  rw [List.append_assoc, VT.feedAll_append, VT.feed_csiBytes vt hg, VT.feed_seq _ none rfl ps fin hf]
  exact VT.dispatch_ps vt _ none ps fin

theorem VT.feed_csi (vt : VT) (hg : vt.ps = .ground) (ps : List Nat) (hne : ps ≠ []) (fin : Byte) (hf : isFinal fin = true) :
    vt.feedAll (csiBytes ++ joinParams ps ++ [fin]) = vt.dispatch none ps fin :=
  VT.feed_csiSeq vt hg ps fin hf

theorem VT.feed_csi_empty (vt : VT) (hg : vt.ps = .ground) (fin : Byte) (hf : isFinal fin = true) :
    vt.feedAll (csiBytes ++ [fin]) = vt.dispatch none [] fin :=
  VT.feed_csiSeq vt hg [] fin hf

theorem VT.feed_csi_digit (vt : VT) (hg : vt.ps = .ground) (n : Nat) (hn : n < 10) (fin : Byte) (hf : isFinal fin = true) :
    vt.feedAll (csiBytes ++ [digitByte n, fin]) = vt.dispatch none [n] fin := by
  rw [show [digitByte n, fin] = joinParams [n] ++ [fin] by rw [joinParams, decDigits, if_pos hn]; rfl, ← List.append_assoc]
  exact VT.feed_csiSeq vt hg [n] fin hf

theorem VT.feed_decpm (vt : VT) (hg : vt.ps = .ground) (ps : List Nat) (fin : Byte) (hf : isFinal fin = true) :
    vt.feedAll (decPmBytes ++ joinParams ps ++ [fin]) = vt.dispatch (some 0x3F) ps fin := by
  rw [List.append_assoc, VT.feedAll_append, VT.feed_decPmBytes vt hg, VT.feed_seq _ (some 0x3F) rfl ps fin hf]
  exact VT.dispatch_ps vt _ (some 0x3F) ps fin

/-! `dispatch` resets `ps`; with `hg` the right-hand sides need not say so. -/

theorem VT.dispatch_m (vt : VT) (hg : vt.ps = .ground) (ps : List Nat) :
    vt.dispatch none ps 0x6D = { vt with rend := applySGR vt.rend (if ps.isEmpty then [0] else ps) } := by
  cases vt; cases hg; rfl
theorem VT.dispatch_G (vt : VT) (hg : vt.ps = .ground) (ps : List Nat) :
    vt.dispatch none ps 0x47 = { vt with cx := min (VT.param ps 0 1 - 1) (vt.w - 1), pending := false } := by
  cases vt; cases hg; rfl
theorem VT.dispatch_A (vt : VT) (hg : vt.ps = .ground) (ps : List Nat) :
    vt.dispatch none ps 0x41 = { vt with cy := vt.cy - VT.param ps 0 1, pending := false } := by
  cases vt; cases hg; rfl
theorem VT.dispatch_B (vt : VT) (hg : vt.ps = .ground) (ps : List Nat) :
    vt.dispatch none ps 0x42 = { vt with cy := min (vt.cy + VT.param ps 0 1) (vt.h - 1), pending := false } := by
  cases vt; cases hg; rfl
theorem VT.dispatch_H (vt : VT) (hg : vt.ps = .ground) (ps : List Nat) :
    vt.dispatch none ps 0x48 =
      { vt with cy := min (VT.param ps 0 1 - 1) (vt.h - 1), cx := min (VT.param ps 1 1 - 1) (vt.w - 1), pending := false } := by
  cases vt; cases hg; rfl
theorem VT.dispatch_J (vt : VT) (hg : vt.ps = .ground) (ps : List Nat) :
    vt.dispatch none ps 0x4A =
      match eraseSel ps with
      | some k => vt.eraseWhere (inDisplayRegion k vt.cx vt.cy)
      | none => vt := by
  cases vt; cases hg; rfl
theorem VT.dispatch_K (vt : VT) (hg : vt.ps = .ground) (ps : List Nat) :
    vt.dispatch none ps 0x4B =
      match eraseSel ps with
      | some k => vt.eraseWhere (inLineRegion k vt.cx vt.cy)
      | none => vt := by
  cases vt; cases hg; rfl
theorem VT.dispatch_s (vt : VT) (hg : vt.ps = .ground) (ps : List Nat) :
    vt.dispatch none ps 0x73 = { vt with saved := some (vt.cx, vt.cy) } := by
  cases vt; cases hg; rfl
theorem VT.dispatch_u (vt : VT) (hg : vt.ps = .ground) (ps : List Nat) :
    vt.dispatch none ps 0x75 =
      match vt.saved with
      | some (x, y) => { vt with cx := x, cy := y, pending := false }
      | none => { vt with cx := 0, cy := 0, pending := false } := by
  cases vt; cases hg; rfl
theorem VT.dispatch_n (vt : VT) (hg : vt.ps = .ground) (ps : List Nat) : vt.dispatch none ps 0x6E = vt := by
  cases vt; cases hg; rfl
theorem VT.dispatch_c (vt : VT) (hg : vt.ps = .ground) (ps : List Nat) : vt.dispatch none ps 0x63 = vt := by
  cases vt; cases hg; rfl
theorem VT.dispatch_h (vt : VT) (hg : vt.ps = .ground) (ps : List Nat) :
    vt.dispatch (some 0x3F) ps 0x68 = ps.foldl (fun v n => v.setMode true n) vt := by
  cases vt; cases hg; rfl
theorem VT.dispatch_l (vt : VT) (hg : vt.ps = .ground) (ps : List Nat) :
    vt.dispatch (some 0x3F) ps 0x6C = ps.foldl (fun v n => v.setMode false n) vt := by
  cases vt; cases hg; rfl

theorem VT.param_nil (i d : Nat) : VT.param [] i d = d := rfl
theorem VT.param_head (n : Nat) (ps : List Nat) (d : Nat) (hn : n ≠ 0) : VT.param (n :: ps) 0 d = n := by
  cases n with
  | zero => exact absurd rfl hn
  | succ n => rfl
theorem VT.param_tail (n : Nat) (ps : List Nat) (i d : Nat) : VT.param (n :: ps) (i + 1) d = VT.param ps i d := rfl

end Tpp
