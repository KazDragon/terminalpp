import Tpp.Model.StringOps
/-! Naturality of the string register machine (`map` commutes with every operation); `to_string` as a `flatten`. -/
namespace Tpp

theorem Regs.map_put {α β} (f : α → β) (g : Regs α) (r : Nat) (xs : List α) :
    (g.put r xs).map f = (g.map f).put r (xs.map f) := by
  funext k; simp only [Regs.map, Regs.put]; split <;> rfl

theorem Regs.map_apply {α β} (f : α → β) (g : Regs α) (r : Nat) : g.map f r = (g r).map f := rfl

theorem Regs.map_ite {α β} (f : α → β) (c : Prop) [Decidable c] (g h : Regs α) :
    (if c then g else h).map f = if c then g.map f else h.map f := by
  split <;> rfl

/-- every operation is `put`, a guard on lengths and register numbers, `++`, `take`, `drop`, `set` -/
theorem SeqOp.apply_map {α β} (f : α → β) (g : Regs α) (op : SeqOp α) :
    (op.apply g).map f = (op.map f).apply (g.map f) := by
  cases op <;>
    simp only [SeqOp.apply, SeqOp.map, Regs.map_ite, Regs.map_put, Regs.map_apply, List.length_map, List.map_append,
      List.map_take, List.map_drop, List.map_set, List.map_cons, List.map_nil]

theorem SeqOp.run_map {α β} (f : α → β) (ops : List (SeqOp α)) : ∀ g : Regs α,
    (SeqOp.run g ops).map f = SeqOp.run (g.map f) (ops.map (SeqOp.map f)) := by
  intro g
  rw [SeqOp.run, SeqOp.run, List.foldl_map]
  exact (List.foldl_hom (Regs.map f) fun g op => (SeqOp.apply_map f g op).symm).symm

theorem TString.toString_eq_flatten (es : List Element) :
    TString.toString es = (es.map fun e => e.glyph.toStringBytes).flatten := by
  simp [TString.toString, List.flatMap_def]

end Tpp
