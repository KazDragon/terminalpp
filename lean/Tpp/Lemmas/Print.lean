import Tpp.Ref.VT
/-! Facts about `VT.print`: what it leaves alone (the *frame*; `_keeps` = frame and log), the log entry it appends, the
cell it writes, where the cursor goes – one column on, or, in the last column, wherever the wrap mode says. -/
namespace Tpp

/-- everything printing never touches -/
structure VT.Frame where
  w : Nat
  h : Nat
  wrap : Wrap
  eraseMode : EraseMode
  rend : Rend
  g0 : Charset
  utf8 : Bool
  cursorVisible : Bool
  mouse1000 : Bool
  mouse1003 : Bool
  alt : Bool
  title : List Byte
  saved : Option (Nat × Nat)
  ps : PS
  malformed : Bool

def VT.frame (vt : VT) : VT.Frame :=
  ⟨vt.w, vt.h, vt.wrap, vt.eraseMode, vt.rend, vt.g0, vt.utf8, vt.cursorVisible, vt.mouse1000, vt.mouse1003,
   vt.alt, vt.title, vt.saved, vt.ps, vt.malformed⟩

theorem VT.scrollUp_frame (vt : VT) : vt.scrollUp.frame = vt.frame := rfl
theorem VT.newline_keeps (vt : VT) : vt.newline.frame = vt.frame ∧ vt.newline.log = vt.log := by
  unfold VT.newline VT.scrollUp; split <;> exact ⟨rfl, rfl⟩
theorem VT.resolvePending_keeps (vt : VT) : vt.resolvePending.frame = vt.frame ∧ vt.resolvePending.log = vt.log := by
  unfold VT.resolvePending; split
  · exact VT.newline_keeps vt
  · exact ⟨rfl, rfl⟩
theorem VT.place_frame (vt : VT) (bs) : (vt.place bs).frame = vt.frame := rfl
theorem VT.advance_keeps (vt : VT) : vt.advance.frame = vt.frame ∧ vt.advance.log = vt.log := by
  unfold VT.advance; split
  · exact ⟨rfl, rfl⟩
  · split
    · exact ⟨rfl, rfl⟩
    · exact VT.newline_keeps vt
    · exact ⟨rfl, rfl⟩
theorem VT.print_frame (vt : VT) (bs) : (vt.print bs).frame = vt.frame := by
  rw [VT.print, (VT.advance_keeps _).1, VT.place_frame, (VT.resolvePending_keeps vt).1]

@[simp] theorem VT.print_rend (vt : VT) (bs) : (vt.print bs).rend = vt.rend := congrArg VT.Frame.rend (VT.print_frame vt bs)
@[simp] theorem VT.print_g0 (vt : VT) (bs) : (vt.print bs).g0 = vt.g0 := congrArg VT.Frame.g0 (VT.print_frame vt bs)
@[simp] theorem VT.print_utf8 (vt : VT) (bs) : (vt.print bs).utf8 = vt.utf8 := congrArg VT.Frame.utf8 (VT.print_frame vt bs)
@[simp] theorem VT.print_ps (vt : VT) (bs) : (vt.print bs).ps = vt.ps := congrArg VT.Frame.ps (VT.print_frame vt bs)
@[simp] theorem VT.print_malformed (vt : VT) (bs) : (vt.print bs).malformed = vt.malformed := congrArg VT.Frame.malformed (VT.print_frame vt bs)
@[simp] theorem VT.print_cursorVisible (vt : VT) (bs) : (vt.print bs).cursorVisible = vt.cursorVisible := congrArg VT.Frame.cursorVisible (VT.print_frame vt bs)
@[simp] theorem VT.print_mouse1000 (vt : VT) (bs) : (vt.print bs).mouse1000 = vt.mouse1000 := congrArg VT.Frame.mouse1000 (VT.print_frame vt bs)
@[simp] theorem VT.print_mouse1003 (vt : VT) (bs) : (vt.print bs).mouse1003 = vt.mouse1003 := congrArg VT.Frame.mouse1003 (VT.print_frame vt bs)
@[simp] theorem VT.print_alt (vt : VT) (bs) : (vt.print bs).alt = vt.alt := congrArg VT.Frame.alt (VT.print_frame vt bs)
@[simp] theorem VT.print_title (vt : VT) (bs) : (vt.print bs).title = vt.title := congrArg VT.Frame.title (VT.print_frame vt bs)
@[simp] theorem VT.print_saved (vt : VT) (bs) : (vt.print bs).saved = vt.saved := congrArg VT.Frame.saved (VT.print_frame vt bs)
@[simp] theorem VT.print_w (vt : VT) (bs) : (vt.print bs).w = vt.w := congrArg VT.Frame.w (VT.print_frame vt bs)
@[simp] theorem VT.print_h (vt : VT) (bs) : (vt.print bs).h = vt.h := congrArg VT.Frame.h (VT.print_frame vt bs)
@[simp] theorem VT.print_wrap (vt : VT) (bs) : (vt.print bs).wrap = vt.wrap := congrArg VT.Frame.wrap (VT.print_frame vt bs)
@[simp] theorem VT.print_eraseMode (vt : VT) (bs) : (vt.print bs).eraseMode = vt.eraseMode := congrArg VT.Frame.eraseMode (VT.print_frame vt bs)

theorem VT.resolvePending_eq (vt : VT) (hp : vt.pending = false) : vt.resolvePending = vt := by
  rw [VT.resolvePending, hp]; rfl

theorem VT.print_log (vt : VT) (bs : List Byte) :
    (vt.print bs).log = vt.log ++ [(vt.resolvePending.cx, vt.resolvePending.cy,
      { bytes := bs, cs := if vt.utf8 then .utf8 else vt.g0, rend := vt.rend })] := by
  obtain ⟨hf, hl⟩ := VT.resolvePending_keeps vt
  have h1 : vt.resolvePending.utf8 = vt.utf8 := congrArg VT.Frame.utf8 hf
  have h2 : vt.resolvePending.g0 = vt.g0 := congrArg VT.Frame.g0 hf
  have h3 : vt.resolvePending.rend = vt.rend := congrArg VT.Frame.rend hf
  -- `vt`'s fields are rewritten backwards into those of `vt.resolvePending`, where `place` reads them
  rw [VT.print, (VT.advance_keeps _).2, ← h1, ← h2, ← h3, ← hl]
  rfl

theorem VT.print_log_at (vt : VT) (bs : List Byte) (hp : vt.pending = false) :
    (vt.print bs).log = vt.log ++ [(vt.cx, vt.cy, { bytes := bs, cs := if vt.utf8 then .utf8 else vt.g0, rend := vt.rend })] := by
  rw [VT.print_log, VT.resolvePending_eq vt hp]

theorem VT.print_advance (vt : VT) (bs : List Byte) (hp : vt.pending = false) (hx : vt.cx + 1 < vt.w) :
    (vt.print bs).cx = vt.cx + 1 ∧ (vt.print bs).cy = vt.cy ∧ (vt.print bs).pending = false := by
  simp [VT.print, VT.resolvePending, hp, VT.place, VT.advance, hx]

theorem VT.print_last_column (vt : VT) (bs : List Byte) (hp : vt.pending = false) (hx : ¬ vt.cx + 1 < vt.w) :
    vt.print bs = match vt.wrap with
      | .deferred => { vt.place bs with pending := true }
      | .immediate => (vt.place bs).newline
      | .none => vt.place bs := by
  rw [VT.print, VT.resolvePending_eq vt hp, VT.advance, if_neg (show ¬ (vt.place bs).cx + 1 < (vt.place bs).w from hx)]
  rfl

/-- only an immediate wrap out of the bottom-right cell scrolls -/
theorem VT.advance_cells (vt : VT) (hns : vt.cx + 1 < vt.w ∨ vt.wrap ≠ .immediate ∨ vt.cy + 1 < vt.h) :
    vt.advance.cells = vt.cells := by
  unfold VT.advance
  split
  · rfl
  · rename_i hlt
    split
    · rfl
    · rename_i hw
      unfold VT.newline
      split
      · rfl
      · rename_i hy
        exact absurd hns (by simp [hlt, hw, hy])
    · rfl

theorem VT.print_cells (vt : VT) (bs : List Byte) (hp : vt.pending = false)
    (hns : vt.cx + 1 < vt.w ∨ vt.wrap ≠ .immediate ∨ vt.cy + 1 < vt.h) :
    (vt.print bs).cells = setCell vt.cells vt.alt vt.cx vt.cy
        { bytes := bs, cs := if vt.utf8 then .utf8 else vt.g0, rend := vt.rend } := by
  rw [VT.print, VT.resolvePending_eq vt hp]
  exact VT.advance_cells (vt.place bs) hns

end Tpp
