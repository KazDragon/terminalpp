import Tpp.Model.Parser
import Tpp.Ref.Input
/-!
One step of the input decoder (`PState.feed`) as a transition table: `DecoderStep b c f` – in control state `c` the byte `b`
triggers the action `f` on the scratch members.  A fact about one step from an arbitrary state is proved by `cases` on the
row (`feed_cases`) or by naming it (`(DecoderStep.digit h).feed_eq hc`); only concrete byte strings are run through `feed` by
evaluation.  The row of an ordinary byte is keyed on `Ref.isOrdinary`, which is the negation of the five special bytes (`Ref.isOrdinary_iff`).
-/
namespace Tpp
open Tpp.Ref

theorem Ref.isOrdinary_iff {b : Byte} :
    isOrdinary b = true ↔ b ≠ 0x1B ∧ b ≠ 0x0D ∧ b ≠ 0x0A ∧ b ≠ 0x9B ∧ b ≠ 0x8F := by
  simp only [isOrdinary, Bool.and_eq_true, bne_iff_ne, and_assoc]

/-- in control state `c` the byte `b` is read as by an idle decoder: no CR / LF partner byte is awaited, or `b` is not it -/
def ReadsAsIdle (c : Ctl) (b : Byte) : Prop :=
  c = .idle ∨ (c = .cr ∧ b ≠ 0x0A ∧ b ≠ 0x00) ∨ (c = .lf ∧ b ≠ 0x0D)

/-- the control sequence collected in the scratch members, completed by the final byte `b` -/
def PState.seq (s : PState) (b : Byte) : CtrlSeq :=
  { initiator := s.initializer, command := b, metaFlag := s.metaFlag, args := s.args ++ [s.arg], extender := s.extender }

/-- `C07_input_arguments_nonempty`, from ANY state -/
theorem PState.seq_args_ne_nil (s : PState) (b : Byte) : (s.seq b).args ≠ [] :=
  List.append_ne_nil_of_right_ne_nil _ (List.cons_ne_nil _ _)

/-- the arguments state on a byte that is no digit, `;` or private marker -/
def PState.finish (s : PState) (b : Byte) : PState × Option RawToken :=
  if b = 0x4D && s.initializer = 0x5B then ({ s with ctl := .mouse0 }, none)
  else ({ s with ctl := .idle, args := s.args ++ [s.arg] }, some (.ctrl (s.seq b)))

theorem PState.finish_eq (s : PState) (b : Byte) :
    (b = 0x4D ∧ s.initializer = 0x5B ∧ s.finish b = ({ s with ctl := .mouse0 }, none))
    ∨ s.finish b = ({ s with ctl := .idle, args := s.args ++ [s.arg] }, some (.ctrl (s.seq b))) := by
  unfold PState.finish; split
  · rename_i h; simp only [Bool.and_eq_true, decide_eq_true_eq] at h; exact .inl ⟨h.1, h.2, rfl⟩
  · exact .inr rfl

/-- The row depends on `(c, b)` only and the action is a function of the state, so two decoders in the same control
    state take the same row (`sim_feed`); the one decision that reads a scratch member, `M` after CSI, is therefore inside
    the action `finish`.  Every action names the next control state, so that `match s.ctl with …` reduces in every row.
    Close the rows with `simp only`: plain `simp` on the record updates costs twenty times as much.
    The numerals are the values of the regenerated `Consts.*`: a header constant that changes breaks `DecoderStep.feed_eq`. -/
inductive DecoderStep (b : Byte) : Ctl → (PState → PState × Option RawToken) → Prop
  | swallowCr : b = 0x0A ∨ b = 0x00 → DecoderStep b .cr fun s => ({ s with ctl := .idle }, none)
  | swallowLf : b = 0x0D → DecoderStep b .lf fun s => ({ s with ctl := .idle }, none)
  | esc {c} : b = 0x1B → ReadsAsIdle c b → DecoderStep b c fun s => ({ s.reset with ctl := .escape }, none)
  | cr {c} : b = 0x0D → ReadsAsIdle c b → DecoderStep b c fun s => ({ s with ctl := .cr }, some (.key enterKey))
  | lf {c} : b = 0x0A → ReadsAsIdle c b → DecoderStep b c fun s => ({ s with ctl := .lf }, some (.key enterKey))
  | csi {c} : b = 0x9B → ReadsAsIdle c b →
      DecoderStep b c fun s => ({ s.reset with ctl := .arguments, initializer := 0x5B }, none)
  | ss3 {c} : b = 0x8F → ReadsAsIdle c b →
      DecoderStep b c fun s => ({ s.reset with ctl := .arguments, initializer := 0x4F }, none)
  | ordinary {c} : isOrdinary b = true → ReadsAsIdle c b →
      DecoderStep b c fun s => ({ s with ctl := .idle }, some (.key (rawKey b)))
  | escEsc : b = 0x1B → DecoderStep b .escape fun s => ({ s with ctl := .escape, metaFlag := true }, none)
  | intro : b ≠ 0x1B → DecoderStep b .escape fun s => ({ s with initializer := b, ctl := .arguments }, none)
  | digit : isDigit b = true → DecoderStep b .arguments fun s => ({ s with ctl := .arguments, arg := s.arg ++ [b] }, none)
  | ps : b = 0x3B → DecoderStep b .arguments fun s =>
      ({ s with ctl := .arguments, args := s.args ++ [s.arg], arg := [] }, none)
  | ext : isExt b = true → DecoderStep b .arguments fun s => ({ s with ctl := .arguments, extender := b }, none)
  | final : isDigit b = false → b ≠ 0x3B → isExt b = false → DecoderStep b .arguments fun s => s.finish b
  | mouse0 : DecoderStep b .mouse0 fun s => ({ s with ctl := .mouse1, mouseEv := mouseOf b }, none)
  | mouse1 : DecoderStep b .mouse1 fun s => ({ s with ctl := .mouse2, mouseX := mouseCoord b }, none)
  | mouse2 : DecoderStep b .mouse2 fun s =>
      ({ s with ctl := .idle, mouseY := mouseCoord b }, some (.mouse s.mouseEv s.mouseX (mouseCoord b)))

theorem feed_of_readsAsIdle {s : PState} {b : Byte} (h : ReadsAsIdle s.ctl b) :
    s.feed b = parseIdle { s with ctl := .idle } b := by
  unfold PState.feed
  rcases h with h | ⟨h, h1, h2⟩ | ⟨h, h1⟩ <;> rw [h]
  · cases s; cases h; rfl
  · exact if_neg (by simp [h1, h2])
  · exact if_neg h1

theorem DecoderStep.feed_eq {b : Byte} {c : Ctl} {f : PState → PState × Option RawToken} (h : DecoderStep b c f) {s : PState}
    (hs : s.ctl = c) : s.feed b = f s := by
  cases h with
  | esc hb hg | cr hb hg | lf hb hg | csi hb hg | ss3 hb hg => subst hs hb; rw [feed_of_readsAsIdle hg]; rfl
  | ordinary hb hg =>
    subst hs
    obtain ⟨h1, h2, h3, h4, h5⟩ := isOrdinary_iff.1 hb
    rw [feed_of_readsAsIdle hg, parseIdle, if_neg h1, if_neg h2, if_neg h3, if_neg h4, if_neg h5]
  | swallowCr hb => cases s; cases hs; exact if_pos (by simpa using hb)
  | swallowLf hb | escEsc hb | digit hb => cases s; cases hs; exact if_pos hb
  | intro hb => cases s; cases hs; exact if_neg hb
  | ps hb => cases s; cases hs; cases hb; rfl
  | ext hb =>
    simp only [isExt, Bool.or_eq_true, decide_eq_true_eq] at hb
    cases s; cases hs
    rcases hb with (rfl | rfl) | rfl <;> rfl
  | final h1 h2 h3 =>
    cases s; cases hs
    show parseArguments _ b = PState.finish _ b
    rw [parseArguments, if_neg (by simp [h1]), if_neg h2, PState.finish]
    split
    · rfl
    · rw [if_neg (by simp [h3])]; rfl
  | mouse0 | mouse1 | mouse2 => cases s; cases hs; rfl

theorem DecoderStep.of_readsAsIdle {b : Byte} {c : Ctl} (hg : ReadsAsIdle c b) : ∃ f, DecoderStep b c f := by
  by_cases h1 : b = 0x1B; · exact ⟨_, .esc h1 hg⟩
  by_cases h2 : b = 0x0D; · exact ⟨_, .cr h2 hg⟩
  by_cases h3 : b = 0x0A; · exact ⟨_, .lf h3 hg⟩
  by_cases h4 : b = 0x9B; · exact ⟨_, .csi h4 hg⟩
  by_cases h5 : b = 0x8F; · exact ⟨_, .ss3 h5 hg⟩
  exact ⟨_, .ordinary (isOrdinary_iff.2 ⟨h1, h2, h3, h4, h5⟩) hg⟩

theorem DecoderStep.total (b : Byte) (c : Ctl) : ∃ f, DecoderStep b c f := by
  cases c with
  | idle => exact DecoderStep.of_readsAsIdle (.inl rfl)
  | cr =>
    by_cases h : b = 0x0A ∨ b = 0x00
    · exact ⟨_, .swallowCr h⟩
    · exact DecoderStep.of_readsAsIdle (.inr (.inl ⟨rfl, not_or.mp h⟩))
  | lf =>
    by_cases h : b = 0x0D
    · exact ⟨_, .swallowLf h⟩
    · exact DecoderStep.of_readsAsIdle (.inr (.inr ⟨rfl, h⟩))
  | escape =>
    by_cases h : b = 0x1B
    · exact ⟨_, .escEsc h⟩
    · exact ⟨_, .intro h⟩
  | arguments =>
    by_cases h1 : isDigit b = true; · exact ⟨_, .digit h1⟩
    by_cases h2 : b = 0x3B; · exact ⟨_, .ps h2⟩
    by_cases h3 : isExt b = true; · exact ⟨_, .ext h3⟩
    exact ⟨_, .final (by simpa using h1) h2 (by simpa using h3)⟩
  | mouse0 => exact ⟨_, .mouse0⟩
  | mouse1 => exact ⟨_, .mouse1⟩
  | mouse2 => exact ⟨_, .mouse2⟩

@[elab_as_elim]
theorem feed_cases {motive : PState × Option RawToken → Prop} (s : PState) (b : Byte)
    (h : ∀ c f, s.ctl = c → DecoderStep b c f → motive (f s)) : motive (s.feed b) :=
  let ⟨f, hf⟩ := DecoderStep.total b s.ctl
  hf.feed_eq rfl ▸ h _ f rfl hf

theorem feed_ordinary {s : PState} {b : Byte} (h : s.ctl = .idle) (hb : isOrdinary b = true) :
    s.feed b = (s, some (.key (rawKey b))) := by
  rw [(DecoderStep.ordinary hb (.inl h)).feed_eq rfl]; cases s; cases h; rfl

theorem feed_emits {s : PState} {x : Byte} {t : RawToken} (h : (s.feed x).2 = some t) :
    t = .key enterKey ∨ (isOrdinary x = true ∧ t = .key (rawKey x))
    ∨ (s.ctl = .mouse2 ∧ t = .mouse s.mouseEv s.mouseX (mouseCoord x))
    ∨ (s.ctl = .arguments ∧ t = .ctrl (s.seq x)) := by
  revert h
  refine feed_cases s x fun c f hc hf h => ?_
  cases hf <;> simp only [Option.some.injEq, reduceCtorEq] at h
  case cr | lf => exact .inl h.symm
  case ordinary ho _ => exact .inr (.inl ⟨ho, h.symm⟩)
  case mouse2 => exact .inr (.inr (.inl ⟨hc, h.symm⟩))
  case final =>
    rcases s.finish_eq x with ⟨_, _, h'⟩ | h' <;> rw [h'] at h
    · cases h
    · exact .inr (.inr (.inr ⟨hc, (Option.some.inj h).symm⟩))

end Tpp
