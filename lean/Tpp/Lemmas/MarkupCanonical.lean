import Tpp.Ref.Markup
import Tpp.Ref.Render
/-! Specification side only.  What `norm` leaves alone (the observers used by C10 and E2E); the canonical spelling of an
expressible element denotes it; how `denoteFrom` ends (`denoteFrom_snoc`, for `observed_snoc`). -/
namespace Tpp.Props.C10
open Tpp.Ref

/-- `Ref.hexOf` with the letter case as a parameter: vocabulary of `C10_utf8`'s statement, declared here so that
    `codePointOf_digits` can speak of it -/
def hexDigit (n : Nat) (upper : Bool) : Hex := ⟨⟨n % 16, Nat.mod_lt _ (by decide)⟩, upper⟩

end Tpp.Props.C10

namespace Tpp.Ref

theorem norm_eq (e : Element) :
    norm e = if e.glyph.cs = .utf8 then e else { e with glyph := { e.glyph with b1 := 0, b2 := 0 } } := by
  unfold norm normGlyph; split <;> rfl

theorem norm_idem (e : Element) : norm (norm e) = norm e := by
  rw [norm_eq e]; split <;> rw [norm_eq] <;> simp_all

theorem norm_cs (e : Element) : (norm e).glyph.cs = e.glyph.cs := by
  rw [norm_eq]; split <;> rfl

theorem startFrom_norm (e : Element) : startFrom (norm e) = startFrom e := by
  rw [startFrom, norm_cs]; rfl

theorem cellOf_norm (e : Element) : cellOf (norm e) = cellOf e := by
  rw [norm_eq]; split <;> simp_all [cellOf, Glyph.text]

theorem wf_norm (e : Element) : (norm e).wf = e.wf := by
  rw [norm_eq]; split <;> simp_all [Element.wf, Glyph.graphic]

theorem cellOf_plainElement (b : Byte) : cellOf (plainElement b) = { bytes := [b], cs := .usAscii, rend := {} } := rfl

theorem expressible_iff (e : Element) : expressible e = true ↔
    e.attr.blinking = .steady ∧ constructible e.attr.fg = true ∧ constructible e.attr.bg = true ∧
      expressibleGlyph e.glyph = true := by
  simp only [expressible, Bool.and_eq_true, decide_eq_true_eq, and_assoc]

theorem primary_lookup : ∀ cs : Charset, cs ≠ .utf8 → scsLookup (designatorBytes (primaryIndex cs)) = some cs := by
  intro cs; cases cs <;> decide +kernel

theorem hexByte_hexOf (x : Byte) : hexByte (hexOf (x.toNat / 16)) (hexOf x.toNat) = x := by
  have : 16 * (x.toNat / 16 % 16) + x.toNat % 16 = x.toNat := by have := x.toNat_lt; omega
  rw [hexByte, hexOf, hexOf, this, UInt8.ofNat_toNat]

theorem colourDirective_apply (l : Layer) (c : Colour) (e : Element) (h : constructible c = true) :
    (colourDirective l c).apply e = setColour l c e := by
  cases c <;> simp only [colourDirective, Directive.apply]
  case low v =>
    simp only [constructible, Bool.or_eq_true, decide_eq_true_eq] at h
    have : v.toNat % 10 = v.toNat := by omega
    rw [this, UInt8.ofNat_toNat]
  case high v =>
    simp only [constructible, Bool.and_eq_true, decide_eq_true_eq] at h
    -- base-6 digits of `v - 16`; nested division keeps `omega` linear
    have : 16 + 36 * ((v.toNat - 16) / 36 % 6) + 6 * ((v.toNat - 16) / 6 % 6) + (v.toNat - 16) % 6 = v.toNat := by
      rw [show (v.toNat - 16) / 36 = (v.toNat - 16) / 6 / 6 by rw [Nat.div_div_eq_div_mul]]; omega
    rw [this, UInt8.ofNat_toNat]
  case grey v =>
    simp only [constructible, decide_eq_true_eq] at h
    have hv := v.toNat_lt
    have : 232 + (v.toNat - 232) % 24 = v.toNat := by omega
    rw [this, UInt8.ofNat_toNat]
  case rgb => simp only [hexByte_hexOf]

theorem codePointOf_digits (v : Nat) (h : v < 65536) (u3 u2 u1 u0 : Bool) :
    codePointOf (Props.C10.hexDigit (v / 4096) u3) (Props.C10.hexDigit (v / 256) u2) (Props.C10.hexDigit (v / 16) u1) (Props.C10.hexDigit v u0) = v := by
  show 4096 * (v / 4096 % 16) + 256 * (v / 256 % 16) + 16 * (v / 16 % 16) + v % 16 = v
  rw [show v / 4096 = v / 16 / 16 / 16 by rw [Nat.div_div_eq_div_mul, Nat.div_div_eq_div_mul],
    show v / 256 = v / 16 / 16 by rw [Nat.div_div_eq_div_mul]]
  omega

theorem hex_roundtrip (v : Nat) (h : v < 65536) :
    codePointOf (hexOf (v / 4096)) (hexOf (v / 256)) (hexOf (v / 16)) (hexOf v) = v :=
  codePointOf_digits v h true true true true

theorem attr_apply_glyph (d : Directive) (e : Element) (h : ∀ x, d ≠ .charset x) : (d.apply e).glyph = e.glyph := by
  cases d with
  | charset x => exact absurd rfl (h x)
  | low l _ | high l _ _ _ | grey l _ | rgb l _ _ _ _ _ _ => cases l <;> rfl
  | _ => rfl

/-- the `ad` block of `Ref.spell`, copied; `spell_directives` ties it to the original -/
def attrDirectives (prev e : Element) : List Directive :=
  if e.attr = prev.attr then []
  else if e.attr = {} then [Directive.reset]
  else
    (if e.attr.intensity ≠ prev.attr.intensity then [Directive.intensity e.attr.intensity] else [])
    ++ (if e.attr.polarity ≠ prev.attr.polarity then [Directive.polarity e.attr.polarity] else [])
    ++ (if e.attr.underlining ≠ prev.attr.underlining then [Directive.underlining e.attr.underlining] else [])
    ++ (if e.attr.fg ≠ prev.attr.fg then [colourDirective .fg e.attr.fg] else [])
    ++ (if e.attr.bg ≠ prev.attr.bg then [colourDirective .bg e.attr.bg] else [])

/-- the optional directive of one field: written only when the field changes -/
theorem foldl_changed {α : Type} [DecidableEq α] (x p : α) (d : Directive) (s t : Element)
    (hd : d.apply s = t) (hp : x = p → s = t) :
    (if x ≠ p then [d] else []).foldl Directive.apply s = t := by
  by_cases h : x = p
  · rw [if_neg (not_not_intro h)]; exact hp h
  · rw [if_pos h]; exact hd

theorem attrDirectives_apply (prev e s : Element) (hs : s.attr = prev.attr)
    (hb : e.attr.blinking = prev.attr.blinking)
    (hf : constructible e.attr.fg = true) (hg : constructible e.attr.bg = true) :
    (attrDirectives prev e).foldl Directive.apply s = { s with attr := e.attr } := by
  unfold attrDirectives
  rw [← hs] at hb ⊢
  by_cases h1 : e.attr = s.attr
  · rw [if_pos h1, h1]; rfl
  by_cases h2 : e.attr = {}
  · rw [if_neg h1, if_pos h2, h2]; rfl
  rw [if_neg h1, if_neg h2]
  simp only [List.foldl_append]
  -- field after field moves from `s` to `e`; an equal field needs no directive.  Blinking has no directive at all,
  -- hence `hb` (and the steady blink threaded through below)
  rw [foldl_changed e.attr.intensity _ _ s _ rfl (fun h => by rw [h]; rfl),
    foldl_changed e.attr.polarity _ _ _ _ rfl (fun h => by rw [h]; rfl),
    foldl_changed e.attr.underlining _ _ _ _ rfl (fun h => by rw [h]; rfl),
    foldl_changed e.attr.fg _ _ _ _ (colourDirective_apply _ _ _ hf) (fun h => by rw [h]; rfl),
    foldl_changed e.attr.bg _ _ _ _ (colourDirective_apply _ _ _ hg) (fun h => by rw [h]; rfl)]
  -- η-expanded so that `hb` can rewrite the last field
  show ({ glyph := s.glyph, attr := ⟨e.attr.fg, e.attr.bg, e.attr.intensity, e.attr.underlining, e.attr.polarity,
    s.attr.blinking⟩ } : Element) = _
  rw [← hb]

theorem spell_directives (prev e : Element) :
    (spell prev e).directives =
      (if e.glyph.cs ≠ .utf8 ∧ e.glyph.cs ≠ (startFrom prev).glyph.cs then [Directive.charset (primaryIndex e.glyph.cs)] else [])
        ++ attrDirectives prev e := rfl

theorem glyphSpelling_apply (g : Glyph) (s : Element) (h : expressibleGlyph g = true)
    (hcs : g.cs ≠ .utf8 → s.glyph.cs = g.cs) :
    (glyphSpelling g).apply s = { s with glyph := normGlyph g } := by
  unfold glyphSpelling normGlyph
  by_cases hu : g.cs = .utf8
  · simp only [expressibleGlyph, hu, if_true, Bool.and_eq_true, decide_eq_true_eq] at h
    simp only [hu, if_true, GlyphSp.apply, hex_roundtrip _ h.1, h.2]
  · have := hcs hu
    simp only [hu, if_false]
    split <;> simp [GlyphSp.apply, this]

theorem denote_spell (prev e : Element) (he : expressible e = true) (hb : prev.attr.blinking = .steady) :
    denote (spell prev e) prev = norm e := by
  obtain ⟨hbl, hf, hg, hgl⟩ := (expressible_iff e).1 he
  unfold denote
  rw [spell_directives, List.foldl_append]
  -- the character set is written only when it is not the one the element starts from
  by_cases hc : e.glyph.cs ≠ .utf8 ∧ e.glyph.cs ≠ (startFrom prev).glyph.cs
  · simp only [if_pos hc, List.foldl_cons, List.foldl_nil, Directive.apply, primary_lookup _ hc.1]
    rw [attrDirectives_apply prev e _ (by rfl) (by rw [hbl, hb]) hf hg]
    exact glyphSpelling_apply e.glyph _ hgl (fun _ => rfl)
  · rw [if_neg hc, List.foldl_nil, attrDirectives_apply prev e _ (by rfl) (by rw [hbl, hb]) hf hg]
    exact glyphSpelling_apply e.glyph _ hgl (fun hu => (Decidable.not_not.1 fun h2 => hc ⟨hu, h2⟩).symm)

theorem spell_congr (a b e : Element) (h : startFrom a = startFrom b) : spell a e = spell b e := by
  have h0 : (startFrom a).attr = (startFrom b).attr := congrArg Element.attr h
  have h1 : a.attr = b.attr := h0
  unfold spell
  rw [h, h1]

theorem spellFrom_congr (es : List Element) (a b : Element) (h : startFrom a = startFrom b) :
    spellFrom es a = spellFrom es b := by
  cases es with
  | nil => rfl
  | cons e r => simp only [spellFrom, spell_congr a b e h]

theorem denoteFrom_congr (sps : List Spelling) (a b : Element) (h : startFrom a = startFrom b) :
    denoteFrom sps a = denoteFrom sps b := by
  cases sps with
  | nil => rfl
  | cons sp r => simp only [denoteFrom, denote, h]

theorem denoteFrom_spellFrom (es : List Element) : ∀ prev : Element, prev.attr.blinking = .steady →
    (∀ e ∈ es, expressible e = true) → denoteFrom (spellFrom es prev) prev = es.map norm := by
  induction es with
  | nil => intro prev _ _; rfl
  | cons e r ih =>
    intro prev hb hex
    have he := hex e (List.mem_cons_self)
    have hr : ∀ x ∈ r, expressible x = true := fun x hx => hex x (List.mem_cons_of_mem _ hx)
    simp only [spellFrom, denoteFrom, List.map_cons, denote_spell prev e he hb]
    congr 1
    rw [denoteFrom_congr _ (norm e) e (startFrom_norm e)]
    exact ih e ((expressible_iff e).1 he).1 hr

theorem denoteFrom_snoc (a : List Spelling) (sp : Spelling) : ∀ p : Element,
    denoteFrom (a ++ [sp]) p = denoteFrom a p ++ [denote sp ((denoteFrom a p).getLast?.getD p)] := by
  induction a with
  | nil => intro p; simp [denoteFrom]
  | cons x a ih =>
    intro p
    simp only [List.cons_append, denoteFrom, ih, List.getLast?_cons]
    simp

theorem foldl_reset (ds : List Directive) (e : Element) : ((ds ++ [Directive.reset]).foldl Directive.apply e).attr = ({} : Attr) := by
  simp [List.foldl_append, Directive.apply]

theorem glyph_apply_attr (g : GlyphSp) (e : Element) : (g.apply e).attr = e.attr := by cases g <;> rfl

end Tpp.Ref
