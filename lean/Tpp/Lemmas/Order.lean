import Tpp.Model.Order
/-!
Generic machinery for C15: what it means for a triple (`==`, `<`, `<=>`) to be lawful, and closure of
lawfulness under the constructions C++ uses for defaulted comparisons.

`Cmp.Laws c` is what the property asks for, with two congruences added.  `Cmp.Lawful c` is the form that is pushed through constructions:
`<=>` is a total preorder and `==`, `<` are read off it (`Lawful.eq_eq`, `Lawful.lt_eq`), so a construction only
has to deal with `<=>`.  `Lawful.laws` / `Laws.lawful` show the two are equivalent.

Nothing here mentions a particular library type.
-/
namespace Tpp

theorem cmpNat_eq_lt (a b : Nat) : cmpNat a b = .lt ↔ a < b := Nat.compare_eq_lt
theorem cmpNat_eq_eq (a b : Nat) : cmpNat a b = .eq ↔ a = b := Nat.compare_eq_eq
theorem cmpNat_eq_gt (a b : Nat) : cmpNat a b = .gt ↔ b < a := Nat.compare_eq_gt

/-- the three comparison operators of a type -/
structure Cmp (α : Type) where
  eq : α → α → Bool
  lt : α → α → Bool
  cmp : α → α → Ordering

namespace Cmp
variable {α β : Type}

/-- The laws as the property states them, and two congruences beyond them (`lt_congr_left/right`), which
    `Laws.lawful` uses. -/
structure Laws (c : Cmp α) : Prop where
  eq_refl : ∀ a, c.eq a a = true
  eq_symm : ∀ a b, c.eq a b = true → c.eq b a = true
  eq_trans : ∀ a b d, c.eq a b = true → c.eq b d = true → c.eq a d = true
  lt_irrefl : ∀ a, c.lt a a = false
  lt_trans : ∀ a b d, c.lt a b = true → c.lt b d = true → c.lt a d = true
  /-- exactly one of `a < b`, `a == b`, `b < a` -/
  trichotomy : ∀ a b,
    (c.lt a b = true ∧ c.eq a b = false ∧ c.lt b a = false) ∨
    (c.lt a b = false ∧ c.eq a b = true ∧ c.lt b a = false) ∨
    (c.lt a b = false ∧ c.eq a b = false ∧ c.lt b a = true)
  cmp_lt : ∀ a b, c.cmp a b = .lt ↔ c.lt a b = true
  cmp_eq : ∀ a b, c.cmp a b = .eq ↔ c.eq a b = true
  cmp_gt : ∀ a b, c.cmp a b = .gt ↔ c.lt b a = true
  lt_congr_left : ∀ a a' b, c.eq a a' = true → c.lt a b = c.lt a' b
  lt_congr_right : ∀ a b b', c.eq b b' = true → c.lt a b = c.lt a b'

section
variable {c : Cmp α}

theorem Laws.not_lt_not_gt_iff_eq (h : c.Laws) (a b : α) :
    (c.lt a b = false ∧ c.lt b a = false) ↔ c.eq a b = true := by
  rcases h.trichotomy a b with ⟨h1, h2, h3⟩ | ⟨h1, h2, h3⟩ | ⟨h1, h2, h3⟩ <;> simp [h1, h2, h3]

theorem Laws.cmp_consistent (h : c.Laws) (a b : α) :
    (c.cmp a b = .lt ↔ c.lt a b = true) ∧ (c.cmp a b = .eq ↔ c.eq a b = true) ∧
    (c.cmp a b = .gt ↔ c.lt b a = true) :=
  ⟨h.cmp_lt a b, h.cmp_eq a b, h.cmp_gt a b⟩

end

structure Lawful (c : Cmp α) : Prop where
  cmp_refl : ∀ a, c.cmp a a = .eq
  cmp_swap : ∀ a b, c.cmp b a = (c.cmp a b).swap
  cmp_lt_trans : ∀ x y z, c.cmp x y = .lt → c.cmp y z = .lt → c.cmp x z = .lt
  cmp_eq_congr : ∀ x y z, c.cmp x y = .eq → c.cmp x z = c.cmp y z
  eq_iff : ∀ a b, c.eq a b = true ↔ c.cmp a b = .eq
  lt_iff : ∀ a b, c.lt a b = true ↔ c.cmp a b = .lt

namespace Lawful
variable {c : Cmp α}

theorem cmp_eq_congr_right (h : c.Lawful) (x y z : α) (hyz : c.cmp y z = .eq) : c.cmp x y = c.cmp x z := by
  rw [h.cmp_swap y x, h.cmp_swap z x, h.cmp_eq_congr y z x hyz]

theorem lt_eq (h : c.Lawful) (a b : α) : c.lt a b = (c.cmp a b).isLT :=
  Bool.eq_iff_iff.2 ((h.lt_iff a b).trans Ordering.isLT_iff_eq_lt.symm)

theorem eq_eq (h : c.Lawful) (a b : α) : c.eq a b = (c.cmp a b).isEq :=
  Bool.eq_iff_iff.2 ((h.eq_iff a b).trans Ordering.isEq_iff_eq_eq.symm)

/-- `<=>` is determined by `<` alone (this is how `glyph::operator<=>` is written) -/
theorem cmp_of_lt (h : c.Lawful) (a b : α) :
    c.cmp a b = if c.lt a b = true then .lt else if c.lt b a = true then .gt else .eq := by
  rw [h.lt_eq, h.lt_eq, h.cmp_swap a b]
  cases c.cmp a b <;> rfl

theorem laws (h : c.Lawful) : c.Laws where
  eq_refl a := (h.eq_iff a a).2 (h.cmp_refl a)
  eq_symm a b := by
    rw [h.eq_eq, h.eq_eq, h.cmp_swap a b, Ordering.isEq_swap]; exact id
  eq_trans a b d hab := by
    rw [h.eq_eq a d, h.cmp_eq_congr a b d ((h.eq_iff a b).1 hab), ← h.eq_eq]; exact id
  lt_irrefl a := by rw [h.lt_eq, h.cmp_refl]; rfl
  lt_trans a b d := by
    rw [h.lt_iff, h.lt_iff, h.lt_iff]; exact h.cmp_lt_trans a b d
  trichotomy a b := by
    rw [h.lt_eq, h.lt_eq, h.eq_eq, h.cmp_swap a b]
    cases c.cmp a b <;> decide
  cmp_lt a b := (h.lt_iff a b).symm
  cmp_eq a b := (h.eq_iff a b).symm
  cmp_gt a b := by rw [h.lt_iff, h.cmp_swap a b, Ordering.swap_eq_lt]
  lt_congr_left a a' b haa := by
    rw [h.lt_eq, h.lt_eq, h.cmp_eq_congr a a' b ((h.eq_iff a a').1 haa)]
  lt_congr_right a b b' hbb := by
    rw [h.lt_eq, h.lt_eq, h.cmp_eq_congr_right a b b' ((h.eq_iff b b').1 hbb)]

end Lawful

theorem ordering_ext {o o' : Ordering} (hl : o = .lt ↔ o' = .lt) (hg : o = .gt ↔ o' = .gt) : o = o' := by
  cases o <;> cases o' <;> simp at hl hg <;> rfl

/-- the converse, which no instance needs -/
theorem Laws.lawful {c : Cmp α} (h : c.Laws) : c.Lawful where
  cmp_refl a := (h.cmp_eq a a).2 (h.eq_refl a)
  cmp_swap a b := by
    rcases h.trichotomy a b with ⟨hl, _, _⟩ | ⟨_, he, _⟩ | ⟨_, _, hg⟩
    · rw [(h.cmp_lt a b).2 hl, (h.cmp_gt b a).2 hl]; rfl
    · rw [(h.cmp_eq a b).2 he, (h.cmp_eq b a).2 (h.eq_symm a b he)]; rfl
    · rw [(h.cmp_gt a b).2 hg, (h.cmp_lt b a).2 hg]; rfl
  cmp_lt_trans x y z := by
    rw [h.cmp_lt, h.cmp_lt, h.cmp_lt]; exact h.lt_trans x y z
  cmp_eq_congr x y z hxy := by
    have e := (h.cmp_eq x y).1 hxy
    apply ordering_ext
    · rw [h.cmp_lt, h.cmp_lt, h.lt_congr_left x y z e]
    · rw [h.cmp_gt, h.cmp_gt, h.lt_congr_right z x y e]
  eq_iff a b := (h.cmp_eq a b).symm
  lt_iff a b := (h.cmp_lt a b).symm

theorem Lawful.congr {c c' : Cmp α} (h : c.Lawful)
    (he : ∀ a b, c'.eq a b = c.eq a b) (hl : ∀ a b, c'.lt a b = c.lt a b)
    (hc : ∀ a b, c'.cmp a b = c.cmp a b) : c'.Lawful := by
  cases c; cases c'
  cases funext fun a => funext (he a)
  cases funext fun a => funext (hl a)
  cases funext fun a => funext (hc a)
  exact h

/-- for operators whose `<` is defined from `<=>`, as every defaulted one's is -/
theorem Lawful.congr_cmp {c : Cmp α} (h : c.Lawful) {eq : α → α → Bool} {cmp : α → α → Ordering}
    (he : ∀ a b, eq a b = c.eq a b) (hc : ∀ a b, cmp a b = c.cmp a b) :
    Lawful ⟨eq, fun a b => (cmp a b).isLT, cmp⟩ :=
  h.congr he (fun a b => (congrArg Ordering.isLT (hc a b)).trans (h.lt_eq a b).symm) hc

/-- comparison through a function (a code, a projection to the tuple of members, …) -/
def pullback (f : α → β) (c : Cmp β) : Cmp α where
  eq a b := c.eq (f a) (f b)
  lt a b := c.lt (f a) (f b)
  cmp a b := c.cmp (f a) (f b)

theorem Lawful.pullback {c : Cmp β} (h : c.Lawful) (f : α → β) : (Cmp.pullback f c).Lawful where
  cmp_refl a := h.cmp_refl (f a)
  cmp_swap a b := h.cmp_swap (f a) (f b)
  cmp_lt_trans x y z := h.cmp_lt_trans (f x) (f y) (f z)
  cmp_eq_congr x y z := h.cmp_eq_congr (f x) (f y) (f z)
  eq_iff a b := h.eq_iff (f a) (f b)
  lt_iff a b := h.lt_iff (f a) (f b)

theorem pullback_eq_iff_of_injective {c : Cmp β} (f : α → β) (hinj : ∀ a b, f a = f b → a = b)
    (heq : ∀ x y, c.eq x y = true ↔ x = y) (a b : α) : (Cmp.pullback f c).eq a b = true ↔ a = b :=
  (heq (f a) (f b)).trans ⟨hinj a b, congrArg f⟩

/-- unsigned integers, and enumerations through their numeric code (`pullback`) -/
def nat : Cmp Nat := ⟨fun a b => a == b, fun a b => (cmpNat a b).isLT, cmpNat⟩
/-- `int`, `coordinate_type` -/
def int : Cmp Int := ⟨fun a b => a == b, fun a b => (cmpInt a b).isLT, cmpInt⟩
/-- `byte` and byte-sized enums, through `toNat` -/
def byte : Cmp Byte := ⟨fun a b => a == b, fun a b => (cmpByte a b).isLT, cmpByte⟩
/-- `bool`, through `toNat` -/
def bool : Cmp Bool := ⟨fun a b => a == b, fun a b => (cmpBool a b).isLT, cmpBool⟩

/-- `==` and a `compare` that core knows to be a linear order: `cmpNat` and `cmpInt` unfold to `compare` -/
theorem Lawful.ofOrd [Ord α] [BEq α] [LawfulBEq α] [Std.TransOrd α] [Std.LawfulEqOrd α] :
    Lawful (⟨(· == ·), fun a b => (compare a b).isLT, compare⟩ : Cmp α) where
  cmp_refl _ := Std.ReflCmp.compare_self
  cmp_swap _ _ := Std.OrientedCmp.eq_swap
  cmp_lt_trans _ _ _ := Std.TransCmp.lt_trans
  cmp_eq_congr _ _ _ := Std.TransCmp.congr_left
  eq_iff _ _ := beq_iff_eq.trans Std.LawfulEqCmp.compare_eq_iff_eq.symm
  lt_iff _ _ := Ordering.isLT_iff_eq_lt

theorem nat_lawful : nat.Lawful := Lawful.ofOrd
theorem int_lawful : int.Lawful := Lawful.ofOrd

theorem nat_eq_iff (a b : Nat) : nat.eq a b = true ↔ a = b := beq_iff_eq
theorem int_eq_iff (a b : Int) : int.eq a b = true ↔ a = b := beq_iff_eq
theorem byte_eq_iff (a b : Byte) : byte.eq a b = true ↔ a = b := beq_iff_eq
theorem bool_eq_iff (a b : Bool) : bool.eq a b = true ↔ a = b := beq_iff_eq

theorem byte_lawful : byte.Lawful :=
  (nat_lawful.pullback UInt8.toNat).congr_cmp
    (fun a b => Bool.eq_iff_iff.2 ((byte_eq_iff a b).trans (UInt8.toNat_inj.symm.trans (nat_eq_iff _ _).symm)))
    (fun _ _ => rfl)

theorem bool_lawful : bool.Lawful :=
  (nat_lawful.pullback Bool.toNat).congr_cmp (fun a b => by cases a <;> cases b <;> rfl) (fun _ _ => rfl)

/-! ### lexicographic product (members of a struct, in order) -/

def lex (c1 : Cmp α) (c2 : Cmp β) : Cmp (α × β) where
  eq a b := c1.eq a.1 b.1 && c2.eq a.2 b.2
  lt a b := ((c1.cmp a.1 b.1).then (c2.cmp a.2 b.2)).isLT
  cmp a b := (c1.cmp a.1 b.1).then (c2.cmp a.2 b.2)

/-- the step `lex` and `list` share: a lawful first component, anything transitive after it -/
theorem Lawful.then_lt_trans {c : Cmp α} (h : c.Lawful) (x y z : α) {p q r : Ordering}
    (hr : p = .lt → q = .lt → r = .lt) :
    (c.cmp x y).then p = .lt → (c.cmp y z).then q = .lt → (c.cmp x z).then r = .lt := by
  simp only [Ordering.then_eq_lt]
  rintro (hxy | ⟨hxy, hp⟩) (hyz | ⟨hyz, hq⟩)
  · exact .inl (h.cmp_lt_trans x y z hxy hyz)
  · exact .inl (h.cmp_eq_congr_right x y z hyz ▸ hxy)
  · exact .inl (h.cmp_eq_congr x y z hxy ▸ hyz)
  · exact .inr ⟨h.cmp_eq_congr x y z hxy ▸ hyz, hr hp hq⟩

theorem Lawful.then_eq_congr {c : Cmp α} (h : c.Lawful) (x y z : α) {p q r : Ordering} (hr : p = .eq → q = r) :
    (c.cmp x y).then p = .eq → (c.cmp x z).then q = (c.cmp y z).then r := by
  rw [Ordering.then_eq_eq]
  rintro ⟨hxy, hp⟩
  rw [h.cmp_eq_congr x y z hxy, hr hp]

theorem Lawful.lex {c1 : Cmp α} {c2 : Cmp β} (h1 : c1.Lawful) (h2 : c2.Lawful) : (Cmp.lex c1 c2).Lawful where
  cmp_refl a := by simp only [Cmp.lex, h1.cmp_refl, h2.cmp_refl]; rfl
  cmp_swap a b := by
    simp only [Cmp.lex]; rw [Ordering.swap_then, ← h1.cmp_swap, ← h2.cmp_swap]
  cmp_lt_trans x y z := h1.then_lt_trans x.1 y.1 z.1 (h2.cmp_lt_trans x.2 y.2 z.2)
  cmp_eq_congr x y z := h1.then_eq_congr x.1 y.1 z.1 (h2.cmp_eq_congr x.2 y.2 z.2)
  eq_iff a b := by
    simp only [Cmp.lex, Bool.and_eq_true, Ordering.then_eq_eq, h1.eq_iff, h2.eq_iff]
  lt_iff _ _ := Ordering.isLT_iff_eq_lt

theorem lex_eq_iff {c1 : Cmp α} {c2 : Cmp β} (e1 : ∀ x y, c1.eq x y = true ↔ x = y)
    (e2 : ∀ x y, c2.eq x y = true ↔ x = y) (a b : α × β) : (Cmp.lex c1 c2).eq a b = true ↔ a = b := by
  rw [Prod.ext_iff, ← e1, ← e2]; exact Bool.and_eq_true_iff

/-! ### sum ordered by constructor index (`std::variant`) -/

def sumCmp (k1 : α → α → Ordering) (k2 : β → β → Ordering) : α ⊕ β → α ⊕ β → Ordering
  | .inl a, .inl b => k1 a b
  | .inr a, .inr b => k2 a b
  | .inl _, .inr _ => .lt
  | .inr _, .inl _ => .gt

def sum (c1 : Cmp α) (c2 : Cmp β) : Cmp (α ⊕ β) where
  eq
    | .inl a, .inl b => c1.eq a b
    | .inr a, .inr b => c2.eq a b
    | _, _ => false
  lt a b := (sumCmp c1.cmp c2.cmp a b).isLT
  cmp := sumCmp c1.cmp c2.cmp

/-- same alternative: the alternative's law; different alternatives: `.lt`/`.gt` are constants -/
theorem Lawful.sum {c1 : Cmp α} {c2 : Cmp β} (h1 : c1.Lawful) (h2 : c2.Lawful) : (Cmp.sum c1 c2).Lawful where
  cmp_refl
    | .inl a => h1.cmp_refl a
    | .inr a => h2.cmp_refl a
  cmp_swap
    | .inl a, .inl b => h1.cmp_swap a b
    | .inr a, .inr b => h2.cmp_swap a b
    | .inl _, .inr _ | .inr _, .inl _ => rfl
  cmp_lt_trans
    | .inl x, .inl y, .inl z => h1.cmp_lt_trans x y z
    | .inr x, .inr y, .inr z => h2.cmp_lt_trans x y z
    | .inl _, _, .inr _ => fun _ _ => rfl
    | .inr _, .inl _, _ => nofun
    | _, .inr _, .inl _ => fun _ => nofun
  cmp_eq_congr
    | .inl x, .inl y, .inl z => h1.cmp_eq_congr x y z
    | .inr x, .inr y, .inr z => h2.cmp_eq_congr x y z
    | .inl _, .inl _, .inr _ | .inr _, .inr _, .inl _ => fun _ => rfl
    | .inl _, .inr _, _ | .inr _, .inl _, _ => nofun
  eq_iff
    | .inl a, .inl b => h1.eq_iff a b
    | .inr a, .inr b => h2.eq_iff a b
    | .inl _, .inr _ | .inr _, .inl _ => ⟨nofun, nofun⟩
  lt_iff _ _ := Ordering.isLT_iff_eq_lt

/-! ### lexicographic list order (`std::vector`, `std::basic_string`) -/

def list (c : Cmp α) : Cmp (List α) where
  eq := listEq c.eq
  lt a b := (listCmp c.cmp a b).isLT
  cmp := listCmp c.cmp

theorem Lawful.list {c : Cmp α} (h : c.Lawful) : (Cmp.list c).Lawful where
  cmp_refl a := by
    simp only [Cmp.list]
    induction a with
    | nil => rfl
    | cons x xs ih => rw [listCmp, h.cmp_refl, ih]; rfl
  cmp_swap a b := by
    simp only [Cmp.list]
    induction a, b using listCmp.induct with
    | case1 | case2 | case3 => rfl
    | case4 x xs y ys ih => rw [listCmp, listCmp, Ordering.swap_then, ← h.cmp_swap, ← ih]
  cmp_lt_trans x y z := by
    induction x, y using listCmp.induct generalizing z with
    | case1 | case3 => nofun
    | case2 =>
      cases z with
      | nil => exact fun _ => nofun
      | cons => exact fun _ _ => rfl
    | case4 a as b bs ih =>
      cases z with
      | nil => nofun
      | cons d ds => exact h.then_lt_trans a b d (ih ds)
  cmp_eq_congr x y z := by
    induction x, y using listCmp.induct generalizing z with
    | case1 => exact fun _ => rfl
    | case2 | case3 => nofun
    | case4 a as b bs ih =>
      cases z with
      | nil => exact fun _ => rfl
      | cons d ds => exact h.then_eq_congr a b d (ih ds)
  eq_iff a b := by
    simp only [Cmp.list]
    induction a, b using listCmp.induct with
    | case1 => exact iff_of_true rfl rfl
    | case2 | case3 => exact ⟨nofun, nofun⟩
    | case4 x xs y ys ih => simp only [listEq, listCmp, Bool.and_eq_true, Ordering.then_eq_eq, h.eq_iff, ih]
  lt_iff _ _ := Ordering.isLT_iff_eq_lt

theorem list_eq_iff {c : Cmp α} (e : ∀ x y, c.eq x y = true ↔ x = y) (a b : List α) :
    (Cmp.list c).eq a b = true ↔ a = b := by
  simp only [Cmp.list]
  induction a, b using listCmp.induct with
  | case1 => exact iff_of_true rfl rfl
  | case2 | case3 => exact ⟨nofun, nofun⟩
  | case4 x xs y ys ih => simp only [listEq, Bool.and_eq_true, e, ih, List.cons.injEq]

end Cmp
end Tpp
