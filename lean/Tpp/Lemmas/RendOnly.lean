import Tpp.Lemmas.Step
/-!
The rendition half of the agreement invariant on its own: it is preserved by every operation whatever the
library believes about sizes and positions – no size ever declared (the README's use of the library), a wrong
size declared, the terminal resized behind the application's back.  Cursor moves may then land anywhere, but
every glyph still comes out with the requested look.

`sim_op` never asks for the cursor half, so this is its first three fields over a wider alphabet of events
(`REv`: any operation, and the terminal resized without the library being told).
-/
namespace Tpp

/-- `move_cursor` to a position with non-negative coordinates, from ANY believed position (true or false):
    the bytes form complete cursor-addressing functions and touch nothing but the terminal's cursor -/
theorem feed_moveCursor_any (vt : VT) (hg : vt.ps = .ground) (c : Option Point) (p : Point)
    (hx : 0 ≤ p.x) (hy : 0 ≤ p.y) :
    ∃ cx cy pd, vt.feedAll (moveCursorBytes c p) = { vt with cx := cx, cy := cy, pending := pd } := by
  obtain ⟨cx, cy, pd, hf, _⟩ := feed_moveCursorBytes vt hg { cursor := c } p hx hy
  exact ⟨cx, cy, pd, hf⟩

/-- events: a library operation (including a bare `set_size`, truthful or not), or the terminal being resized
    without the library being told -/
inductive REv
  | op (o : Op)
  | termResize (w h : Nat) (cells : Bool → Grid) (cx cy : Nat) (saved : Option (Nat × Nat)) (pending : Bool)

def REv.WF (s : TermState) : REv → Prop
  | .op o => o.WFR s
  | .termResize _ _ _ _ _ _ _ => True

def REv.elements : REv → List Element
  | .op o => o.elements
  | .termResize _ _ _ _ _ _ _ => []

def RSys.step (beh : Behaviour) (st : TermState × VT) : REv → TermState × VT
  | .op o => ((Tpp.step beh st.1 o).1, st.2.feedAll (Tpp.step beh st.1 o).2)
  | .termResize w h cells cx cy saved pending => (st.1, st.2.resize w h cells cx cy saved pending)

def RSys.run (beh : Behaviour) (st : TermState × VT) (evs : List REv) : TermState × VT := evs.foldl (RSys.step beh) st

def RRunWF (beh : Behaviour) : TermState × VT → List REv → Prop
  | _, [] => True
  | st, ev :: evs => ev.WF st.1 ∧ RRunWF beh (RSys.step beh st ev) evs

/-- the event of `Ev` that `modesAfter` is asked about for an `REv` -/
def REv.toEv : REv → Ev
  | .op o => .op o
  | .termResize w h cells cx cy saved pending => .resize w h cells cx cy saved pending

theorem RSys.run_cons (beh : Behaviour) (st : TermState × VT) (ev : REv) (evs : List REv) :
    RSys.run beh st (ev :: evs) = RSys.run beh (RSys.step beh st ev) evs := rfl

/-- `rend` and `log` of `sim_op` for an `REv`: no assumption about sizes or positions -/
theorem agreeRend_step (beh : Behaviour) (s : TermState) (vt : VT) (hA : AgreeRend s vt) (ev : REv) (hw : ev.WF s) :
    AgreeRend (RSys.step beh (s, vt) ev).1 (RSys.step beh (s, vt) ev).2 ∧
    ∃ entries, (RSys.step beh (s, vt) ev).2.log = vt.log ++ entries ∧ entries.map (·.2.2) = ev.elements.map cellOf := by
  cases ev with
  | termResize w h cells cx cy saved pending =>
    exact ⟨hA.congr rfl rfl, log_unchanged rfl⟩
  | op o => exact ⟨(sim_op beh s vt hA o hw).rend, (sim_op beh s vt hA o hw).log⟩

theorem rstep_modes (beh : Behaviour) (s : TermState) (vt : VT) (hA : AgreeRend s vt) (ev : REv) (hw : ev.WF s) :
    (RSys.step beh (s, vt) ev).2.modes = modesAfter beh vt.modes ev.toEv := by
  cases ev with
  | termResize w h cells cx cy saved pending => rfl
  | op o => exact (sim_op beh s vt hA o hw).modes

theorem rsim_run (beh : Behaviour) (st : TermState × VT) (hA : AgreeRend st.1 st.2) (evs : List REv)
    (hw : RRunWF beh st evs) :
    AgreeRend (RSys.run beh st evs).1 (RSys.run beh st evs).2 ∧
    (∃ entries, (RSys.run beh st evs).2.log = st.2.log ++ entries ∧
      entries.map (·.2.2) = (evs.flatMap REv.elements).map cellOf) ∧
    (RSys.run beh st evs).2.modes = (evs.map REv.toEv).foldl (modesAfter beh) st.2.modes := by
  induction evs generalizing st with
  | nil => exact ⟨hA, log_unchanged rfl, rfl⟩
  | cons ev evs ih =>
    obtain ⟨hA1, e1, hl1, hc1⟩ := agreeRend_step beh st.1 st.2 hA ev hw.1
    obtain ⟨hA2, ⟨e2, hl2, hc2⟩, hm2⟩ := ih (RSys.step beh st ev) hA1 hw.2
    exact ⟨hA2, ⟨e1 ++ e2, by rw [RSys.run_cons, hl2, hl1, List.append_assoc], by simp [hc1, hc2]⟩,
      by rw [RSys.run_cons, hm2, rstep_modes beh st.1 st.2 hA ev hw.1]; rfl⟩

theorem agreeRend_run (beh : Behaviour) (evs : List REv) :
    ∀ (st : TermState × VT), AgreeRend st.1 st.2 → RRunWF beh st evs →
      AgreeRend (RSys.run beh st evs).1 (RSys.run beh st evs).2 ∧
      ∃ entries, (RSys.run beh st evs).2.log = st.2.log ++ entries ∧
        entries.map (·.2.2) = (evs.flatMap REv.elements).map cellOf :=
  fun st hA hw => ⟨(rsim_run beh st hA evs hw).1, (rsim_run beh st hA evs hw).2.1⟩

theorem RSys.run_ops (beh : Behaviour) (ops : List Op) (s : TermState) (vt : VT) :
    RSys.run beh (s, vt) (ops.map REv.op) = ((Tpp.run beh s ops).1, vt.feedAll (Tpp.run beh s ops).2) := by
  rw [← sys_run_ops, RSys.run, Sys.run, List.foldl_map, List.foldl_map]; rfl

/-- operations whose rendition-only domain condition does not depend on the library state (`Op.WFR` with the
    `rawElement` row False): what a fixed list of operations can be checked against -/
def Op.WFR0 : Op → Prop
  | .writeElement e => e.wf = true
  | .writeString es => ∀ e ∈ es, e.wf = true
  | .rawElement _ => False
  | .moveCursor p => 0 ≤ p.x ∧ 0 ≤ p.y
  | .setTitle t => titleClean t = true
  | .rawWrite _ => False
  | _ => True

theorem wfr_of_wfr0 (s : TermState) (op : Op) (h : op.WFR0) : op.WFR s := by
  cases op <;> simp_all [Op.WFR0, Op.WFR]

theorem rrunwf_of_all (beh : Behaviour) (ops : List Op) (h : ∀ op ∈ ops, op.WFR0) :
    ∀ st : TermState × VT, RRunWF beh st (ops.map REv.op) := by
  induction ops with
  | nil => intro st; trivial
  | cons op ops ih =>
    intro st
    exact ⟨wfr_of_wfr0 st.1 op (h op (by simp)), ih (fun o ho => h o (by simp [ho])) _⟩

theorem rawElement_indep (beh : Behaviour) (s s' : TermState) (e : Element) (hl : s.last = s'.last)
    (hv : s.visible = s'.visible) :
    (rawElement beh s e).2 = (rawElement beh s' e).2 ∧ (rawElement beh s e).1.last = (rawElement beh s' e).1.last ∧
    (rawElement beh s e).1.visible = (rawElement beh s' e).1.visible := by
  simp only [rawElement, hl]
  refine ⟨trivial, ?_, ?_⟩
  · rw [(advanceCursor_fields _).2.1, (advanceCursor_fields _).2.1]
  · rw [(advanceCursor_fields _).2.2.2, (advanceCursor_fields _).2.2.2]; exact hv

theorem rawElements_indep (beh : Behaviour) (es : List Element) : ∀ (s s' : TermState), s.last = s'.last →
    s.visible = s'.visible →
    (rawElements beh s es).2 = (rawElements beh s' es).2 ∧ (rawElements beh s es).1.last = (rawElements beh s' es).1.last ∧
    (rawElements beh s es).1.visible = (rawElements beh s' es).1.visible := by
  induction es with
  | nil => intro s s' hl hv; exact ⟨rfl, hl, hv⟩
  | cons e es ih =>
    intro s s' hl hv
    obtain ⟨h1, h2, h3⟩ := rawElement_indep beh s s' e hl hv
    obtain ⟨i1, i2, i3⟩ := ih _ _ h2 h3
    simp only [rawElements]
    exact ⟨by rw [h1, i1], i2, i3⟩

theorem defaultAttr_indep (s s' : TermState) (hl : s.last = s'.last) (hv : s.visible = s'.visible) :
    (defaultAttr s).2 = (defaultAttr s').2 ∧ (defaultAttr s).1.last = (defaultAttr s').1.last ∧
    (defaultAttr s).1.visible = (defaultAttr s').1.visible := by
  cases h' : s'.last with
  | none => rw [defaultAttr_none h', defaultAttr_none (hl.trans h')]; exact ⟨rfl, rfl, hv⟩
  | some l => rw [defaultAttr_some h', defaultAttr_some (hl.trans h')]; exact ⟨rfl, hl, hv⟩

/-- the operations `step_indep` speaks of.  Only `move_cursor` has bytes that depend on the believed position; `set_size`
    and raw writes are left out too, although the conclusion of `step_indep` holds for them by `rfl` -/
def Op.positionFree : Op → Bool
  | .moveCursor _ => false
  | .setSize _ => false
  | .rawWrite _ => false
  | _ => true

theorem step_indep (beh : Behaviour) (s s' : TermState) (op : Op) (hp : op.positionFree = true)
    (hl : s.last = s'.last) (hv : s.visible = s'.visible) :
    (step beh s op).2 = (step beh s' op).2 ∧ (step beh s op).1.last = (step beh s' op).1.last ∧
    (step beh s op).1.visible = (step beh s' op).1.visible := by
  cases op with
  | writeElement e =>
    obtain ⟨d1, d2, d3⟩ := defaultAttr_indep s s' hl hv
    obtain ⟨r1, r2, r3⟩ := rawElement_indep beh _ _ e d2 d3
    rw [step_writeElement, step_writeElement]; exact ⟨by rw [d1, r1], r2, r3⟩
  | writeString es =>
    obtain ⟨d1, d2, d3⟩ := defaultAttr_indep s s' hl hv
    obtain ⟨r1, r2, r3⟩ := rawElements_indep beh es _ _ d2 d3
    rw [step_writeString, step_writeString]; exact ⟨by rw [d1, r1], r2, r3⟩
  | rawElement e => exact rawElement_indep beh s s' e hl hv
  | defaultAttr => exact defaultAttr_indep s s' hl hv
  | hideCursor | showCursor => simp only [step, hv]; exact ⟨trivial, hl, trivial⟩
  | erase k => simp only [step, hl]; exact ⟨trivial, trivial, hv⟩
  -- the belief is not consulted at all
  | saveCursor | restoreCursor | enableMouse | disableMouse | setTitle t | normalBuffer | altBuffer | input bs =>
    exact ⟨rfl, hl, hv⟩
  | moveCursor p | setSize e | rawWrite bs => simp [Op.positionFree] at hp

end Tpp
