import Tpp.Ref.Render
import Tpp.Lemmas.Payload
import Tpp.Props.C18
/-!
Character-set switching and glyph payload, interpreted by the reference terminal.  The library's designator table meets
the standard's in property C18 (hence the import of `Tpp.Props.C18`); here the standard's table is all that is looked at.
The bytes of a graphic glyph come out as one printed cell.
-/
namespace Tpp

theorem scs_roundtrip (cs : Charset) (h : cs ≠ .utf8) : Ref.scsLookup (encodeCharset cs) = some cs := by
  rw [Props.C18.C18_encode_standard cs h]; exact (Props.C18.primaryDesignator_spec cs h).2

theorem VT.feed_scs (vt : VT) (hg : vt.ps = .ground) {l : List Byte} (h : Props.C18.designatorShaped l = true)
    {cs : Charset} (hl : Ref.scsLookup l = some cs) : vt.feedAll (0x1B :: 0x28 :: l) = { vt with g0 := cs } := by
  obtain ⟨b, rfl, hne⟩ | ⟨b, rfl⟩ := Props.C18.designatorShaped_cases h
  · simp [VT.feed, hg, hne, hl]
  · simp [VT.feed, hg, hl]

theorem feed_designate (vt : VT) (hg : vt.ps = .ground) (cs : Charset) (h : cs ≠ .utf8) :
    vt.feedAll (designateG0 cs) = { vt with g0 := cs } := by
  rw [designateG0, Props.C18.C18_encode_standard cs h]
  exact VT.feed_scs vt hg (Props.C18.primaryDesignator_spec cs h).1 (Props.C18.primaryDesignator_spec cs h).2

theorem feed_selectUtf8 (vt : VT) (hg : vt.ps = .ground) : vt.feedAll selectUtf8 = { vt with utf8 := true } := by
  have : selectUtf8 = [0x1B, 0x25, 0x47] := by decide
  simp [this, VT.feed, hg]
theorem feed_selectDefault (vt : VT) (hg : vt.ps = .ground) : vt.feedAll selectDefault = { vt with utf8 := false } := by
  have : selectDefault = [0x1B, 0x25, 0x40] := by decide
  simp [this, VT.feed, hg]

theorem charsetAgree_utf8 {vt : VT} : CharsetAgree .utf8 vt ↔ vt.utf8 = true := by
  rw [CharsetAgree, if_pos rfl]
theorem charsetAgree_single {vt : VT} {cs : Charset} (hc : cs ≠ .utf8) :
    CharsetAgree cs vt ↔ vt.utf8 = false ∧ vt.g0 = cs := by
  rw [CharsetAgree, if_neg hc]
theorem CharsetAgree.congr {cs : Charset} {vt vt' : VT} (h : CharsetAgree cs vt) (hg0 : vt'.g0 = vt.g0)
    (hu : vt'.utf8 = vt.utf8) : CharsetAgree cs vt' := by
  unfold CharsetAgree at h ⊢; rw [hg0, hu]; exact h

theorem changeCharset_self (beh : Behaviour) (c : Charset) : changeCharset beh c c = [] := by rw [changeCharset, if_pos rfl]

/-- after the charset bytes the terminal agrees with the destination; nothing else changes -/
theorem feed_changeCharset (beh) (vt : VT) (hg : vt.ps = .ground) (src dst : Charset) (ha : CharsetAgree src vt) :
    ∃ g0 u, vt.feedAll (changeCharset beh src dst) = { vt with g0 := g0, utf8 := u } ∧
      CharsetAgree dst { vt with g0 := g0, utf8 := u } := by
  by_cases h : src = dst
  · subst h; rw [changeCharset_self]; exact ⟨vt.g0, vt.utf8, rfl, ha⟩
  rw [changeCharset, if_neg h]
  by_cases hd : dst = .utf8
  · -- to UTF-8: G0 is made US-ASCII first unless it is, or the behaviour says it does not matter
    have hP : ∃ g, vt.feedAll (if beh.unicodeAll then [] else if src = .usAscii then [] else designateG0 .usAscii)
        = { vt with g0 := g } := by
      split
      · exact ⟨vt.g0, rfl⟩
      · split
        · exact ⟨vt.g0, rfl⟩
        · exact ⟨_, feed_designate vt hg .usAscii (by decide)⟩
    obtain ⟨g, hP⟩ := hP
    rw [if_pos hd, VT.feedAll_append, hP, feed_selectUtf8 { vt with g0 := g } hg]
    exact ⟨g, true, rfl, hd ▸ charsetAgree_utf8.2 rfl⟩
  · -- to a single-byte set: UTF-8 mode is left first if it is on
    have hQ : vt.feedAll (if src = .utf8 then selectDefault else []) = { vt with utf8 := false } := by
      split
      · exact feed_selectDefault vt hg
      · next hs => exact congrArg (fun u => { vt with utf8 := u }) ((charsetAgree_single hs).1 ha).1
    rw [if_neg hd, VT.feedAll_append, hQ, feed_designate { vt with utf8 := false } hg dst hd]
    exact ⟨dst, false, rfl, (charsetAgree_single hd).2 ⟨rfl, rfl⟩⟩

theorem ne_esc_of_le {b : Byte} (h : 0x20 ≤ b) : b ≠ 0x1B := fun e => absurd (e ▸ h) (by decide)
theorem isCont_iff {b : Byte} : isCont b = true ↔ 0x80 ≤ b ∧ b ≤ 0xBF := by
  simp only [isCont, Bool.and_eq_true, decide_eq_true_eq]

theorem VT.feed_graphic1 (vt : VT) (hg : vt.ps = .ground) (hu : vt.utf8 = false) (b : Byte) (hb : isGraphic1 b = true) :
    vt.feed b = vt.print [b] := by
  have hne : b ≠ 0x1B := fun e => absurd (e ▸ hb) (by decide)
  simp only [VT.feed, hg, hu, hb, if_neg hne, if_true, Bool.false_eq_true, if_false]

theorem VT.feed_ascii (vt : VT) (hg : vt.ps = .ground) (hu : vt.utf8 = true) (b : Byte) (h1 : 0x20 ≤ b) (h2 : b ≤ 0x7E) :
    vt.feed b = vt.print [b] := by
  have h3 : b < 0x80 := UInt8.lt_of_le_of_lt h2 (by decide)
  simp only [VT.feed, hg, hu, if_neg (ne_esc_of_le h1), if_true, h3, h1, h2, decide_true, Bool.and_self]

theorem VT.feed_lead2 (vt : VT) (hg : vt.ps = .ground) (hu : vt.utf8 = true) (b : Byte) (h1 : 0xC2 ≤ b) (h2 : b ≤ 0xDF) :
    vt.feed b = { vt with ps := .u8 1 [b] } := by
  have h3 : ¬ b < 0x80 := not_lt_0x80_of_le (by decide) h1
  have h0 : b ≠ 0x1B := ne_esc_of_le (UInt8.le_trans (by decide) h1)
  simp only [VT.feed, hg, hu, if_neg h0, if_true, if_neg h3, h1, h2, decide_true, Bool.and_self]

theorem VT.feed_lead3 (vt : VT) (hg : vt.ps = .ground) (hu : vt.utf8 = true) (b : Byte) (h1 : 0xE0 ≤ b) (h2 : b ≤ 0xEF) :
    vt.feed b = { vt with ps := .u8 2 [b] } := by
  have h3 : ¬ b < 0x80 := not_lt_0x80_of_le (by decide) h1
  have h4 : ¬ b ≤ 0xDF := UInt8.not_le.2 (UInt8.lt_of_lt_of_le (by decide) h1)
  have h0 : b ≠ 0x1B := ne_esc_of_le (UInt8.le_trans (by decide) h1)
  simp only [VT.feed, hg, hu, if_neg h0, if_true, if_neg h3, h1, h2, h4, decide_true, decide_false, Bool.and_self,
    Bool.and_false, Bool.false_eq_true, if_false]

theorem VT.feed_cont (vt : VT) (need : Nat) (acc : List Byte) (h : vt.ps = .u8 need acc) (b : Byte) (hb : isCont b = true) :
    vt.feed b = if need = 1 then ({ vt with ps := .ground } : VT).print (acc ++ [b])
      else { vt with ps := .u8 (need - 1) (acc ++ [b]) } := by
  obtain ⟨h1, h2⟩ := isCont_iff.1 hb
  simp only [VT.feed, h, h1, h2, decide_true, Bool.and_self, if_true]

theorem Glyph.graphic_utf8 (g : Glyph) (hu : g.cs = .utf8) (h : g.graphic = true) :
    (0x20 ≤ g.b0 ∧ g.b0 ≤ 0x7E ∧ g.b1 = 0 ∧ g.b2 = 0 ∧ g.text = [g.b0]) ∨
    (0xC2 ≤ g.b0 ∧ g.b0 ≤ 0xDF ∧ isCont g.b1 = true ∧ g.b2 = 0 ∧ g.text = [g.b0, g.b1]) ∨
    (0xE0 ≤ g.b0 ∧ g.b0 ≤ 0xEF ∧ isCont g.b1 = true ∧ isCont g.b2 = true ∧ g.text = [g.b0, g.b1, g.b2]) := by
  simp only [Glyph.graphic, if_pos hu, Bool.or_eq_true, Bool.and_eq_true, decide_eq_true_eq] at h
  rw [Glyph.text, if_pos hu]
  rcases h with (⟨⟨⟨h1, h2⟩, h3⟩, h4⟩ | ⟨⟨⟨h1, h2⟩, h3⟩, h4⟩) | ⟨⟨⟨h1, h2⟩, h3⟩, h4⟩
  · exact .inl ⟨h1, h2, h3, h4, by rw [if_pos h3]⟩
  · exact .inr (.inl ⟨h1, h2, h3, h4, by rw [if_neg (ne_zero_of_le (isCont_iff.1 h3).1), if_pos h4]⟩)
  · exact .inr (.inr ⟨h1, h2, h3, h4,
      by rw [if_neg (ne_zero_of_le (isCont_iff.1 h3).1), if_neg (ne_zero_of_le (isCont_iff.1 h4).1)]⟩)

theorem payload_eq_text (g : Glyph) (hgr : g.graphic = true) : g.payload = g.text := by
  by_cases hu : g.cs = .utf8
  · rw [Glyph.payload, if_pos hu, Glyph.utf8Index_eq]
    rcases g.graphic_utf8 hu hgr with ⟨_, h2, _, _, ht⟩ | ⟨h1, _, c1, h4, ht⟩ | ⟨h1, _, c1, c2, ht⟩
    · rw [ht, if_pos (UInt8.lt_of_le_of_lt h2 (by decide))]; rfl
    · rw [ht, if_neg (not_lt_0x80_of_le (by decide) h1), if_neg (UInt8.not_lt.2 (isCont_iff.1 c1).1), if_pos (h4 ▸ by decide)]; rfl
    · rw [ht, if_neg (not_lt_0x80_of_le (by decide) h1), if_neg (UInt8.not_lt.2 (isCont_iff.1 c1).1), if_neg (UInt8.not_lt.2 (isCont_iff.1 c2).1)]; rfl
  · rw [Glyph.payload, Glyph.text, if_neg hu, if_neg hu]

theorem VT.ps_ground_eta (vt : VT) (hg : vt.ps = .ground) : { vt with ps := .ground } = vt := by
  cases vt; cases hg; rfl

/-- feeding the text of a graphic glyph prints exactly that text as one cell -/
theorem feed_text (vt : VT) (hg : vt.ps = .ground) (g : Glyph) (hgr : g.graphic = true)
    (ha : CharsetAgree g.cs vt) :
    vt.feedAll g.text = vt.print g.text := by
  by_cases hu : g.cs = .utf8
  · replace ha := charsetAgree_utf8.1 (hu ▸ ha)
    rcases g.graphic_utf8 hu hgr with ⟨h1, h2, _, _, ht⟩ | ⟨h1, h2, c1, _, ht⟩ | ⟨h1, h2, c1, c2, ht⟩
    · rw [ht]; exact VT.feed_ascii vt hg ha _ h1 h2
    · rw [ht, VT.feedAll_cons, VT.feed_lead2 vt hg ha _ h1 h2, VT.feedAll_cons, VT.feed_cont _ 1 [g.b0] rfl _ c1,
        if_pos rfl, VT.feedAll_nil]
      exact congrArg (VT.print · _) (VT.ps_ground_eta vt hg)
    · rw [ht, VT.feedAll_cons, VT.feed_lead3 vt hg ha _ h1 h2, VT.feedAll_cons, VT.feed_cont _ 2 [g.b0] rfl _ c1,
        if_neg (by decide), VT.feedAll_cons, VT.feed_cont _ 1 [g.b0, g.b1] rfl _ c2, if_pos rfl, VT.feedAll_nil]
      exact congrArg (VT.print · _) (VT.ps_ground_eta vt hg)
  · rw [Glyph.graphic, if_neg hu] at hgr
    rw [Glyph.text, if_neg hu]
    exact VT.feed_graphic1 vt hg ((charsetAgree_single hu).1 ha).1 _ hgr

end Tpp
