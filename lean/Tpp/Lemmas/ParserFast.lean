import Tpp.Model.ParserFast
import Tpp.Lemmas.DecoderStep
/-! The driver's linear-time evaluation of the decoder model (`Tpp.Model.ParserFast`) is the model. -/
namespace Tpp

theorem flushDigits_nil (s : PState) : flushDigits s [] = s := by cases s; simp [flushDigits]

theorem runFast_eq (bs : List Byte) : ∀ (s : PState) (acc : List Byte),
    runFast bs s acc = (feedAll bs (flushDigits s acc), rawTokens bs (flushDigits s acc)) := by
  induction bs with
  | nil => intro s acc; rfl
  | cons b bs ih =>
    intro s acc
    unfold runFast
    split
    · rename_i hcond
      simp at hcond
      have hf := (DecoderStep.digit hcond.2).feed_eq (s := flushDigits s acc) hcond.1
      rw [ih s (b :: acc)]
      have : flushDigits s (b :: acc)
          = { flushDigits s acc with ctl := .arguments, arg := (flushDigits s acc).arg ++ [b] } := by
        cases s; cases hcond.1; simp [flushDigits]
      simp [feedAll, rawTokens, hf, this, optList]
    · have := ih ((flushDigits s acc).feed b).1 []
      simp only [this, flushDigits_nil, feedAll, rawTokens]

theorem deliverFast_eq (s : PState) (chunk : List Byte) : deliverFast s chunk = deliver s chunk := by
  simp [deliverFast, deliver, tokens, runFast_eq chunk s [], flushDigits_nil]

theorem deliverAllFast_eq (chunks : List (List Byte)) : ∀ s : PState,
    deliverAllFast chunks s = (deliverAll chunks s).tokenLists := by
  induction chunks with
  | nil => intro s; rfl
  | cons c cs ih => intro s; simp [deliverAllFast, deliverAll_cons, deliverFast_eq, deliver, ih]

end Tpp
