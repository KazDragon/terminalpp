import Tpp.Lemmas.Order
/-!
The operators of every value type (`Tpp.Model.Order`), bundled as `Cmp`s, are `Lawful`: a struct is the `lex` of
its members pulled back along the tuple of members, an enum the pullback of `nat` along its code, a variant a `sum`,
a vector a `list`.  `glyph`'s three hand-written operators are the exception: they coincide with the order of the key
`(character set, storage bytes in use)`, which is also all that `hash_value` reads.  For every other hashable type
`==` is equality (`T.eq_imp`, `Charset.eq_iff`), so any hash respects it.
-/
namespace Tpp
open Cmp

abbrev Charset.ops : Cmp Charset := ⟨Charset.eq, Charset.lt, Charset.cmp⟩
abbrev Glyph.ops : Cmp Glyph := ⟨Glyph.eq, Glyph.lt, Glyph.cmp⟩
abbrev LowColour.ops : Cmp LowColour := ⟨LowColour.eq, LowColour.lt, LowColour.cmp⟩
abbrev HighColour.ops : Cmp HighColour := ⟨HighColour.eq, HighColour.lt, HighColour.cmp⟩
abbrev GreyscaleColour.ops : Cmp GreyscaleColour := ⟨GreyscaleColour.eq, GreyscaleColour.lt, GreyscaleColour.cmp⟩
abbrev TrueColour.ops : Cmp TrueColour := ⟨TrueColour.eq, TrueColour.lt, TrueColour.cmp⟩
abbrev Colour.ops : Cmp Colour := ⟨Colour.eq, Colour.lt, Colour.cmp⟩
abbrev Intensity.ops : Cmp Intensity := ⟨Intensity.eq, Intensity.lt, Intensity.cmp⟩
abbrev Underlining.ops : Cmp Underlining := ⟨Underlining.eq, Underlining.lt, Underlining.cmp⟩
abbrev Polarity.ops : Cmp Polarity := ⟨Polarity.eq, Polarity.lt, Polarity.cmp⟩
abbrev Blinking.ops : Cmp Blinking := ⟨Blinking.eq, Blinking.lt, Blinking.cmp⟩
abbrev Attr.ops : Cmp Attr := ⟨Attr.eq, Attr.lt, Attr.cmp⟩
abbrev Element.ops : Cmp Element := ⟨Element.eq, Element.lt, Element.cmp⟩
abbrev TString.ops : Cmp TString := ⟨TString.eq, TString.lt, TString.cmp⟩
abbrev Point.ops : Cmp Point := ⟨Point.eq, Point.lt, Point.cmp⟩
abbrev Extent.ops : Cmp Extent := ⟨Extent.eq, Extent.lt, Extent.cmp⟩
abbrev Rectangle.ops : Cmp Rectangle := ⟨Rectangle.eq, Rectangle.lt, Rectangle.cmp⟩
abbrev ControlSequence.ops : Cmp ControlSequence := ⟨ControlSequence.eq, ControlSequence.lt, ControlSequence.cmp⟩
abbrev KeySequence.ops : Cmp KeySequence := ⟨KeySequence.eq, KeySequence.lt, KeySequence.cmp⟩
abbrev VirtualKey.ops : Cmp VirtualKey := ⟨VirtualKey.eq, VirtualKey.lt, VirtualKey.cmp⟩
abbrev MouseEvent.ops : Cmp MouseEvent := ⟨MouseEvent.eq, MouseEvent.lt, MouseEvent.cmp⟩

theorem Charset.ops_lawful : Charset.ops.Lawful := nat_lawful.pullback Charset.code
theorem Intensity.ops_lawful : Intensity.ops.Lawful := nat_lawful.pullback Intensity.code
theorem Underlining.ops_lawful : Underlining.ops.Lawful := nat_lawful.pullback Underlining.code
theorem Polarity.ops_lawful : Polarity.ops.Lawful := nat_lawful.pullback Polarity.code
theorem Blinking.ops_lawful : Blinking.ops.Lawful := nat_lawful.pullback Blinking.code

theorem Charset.eq_iff (a b : Charset) : Charset.eq a b = true ↔ a = b :=
  pullback_eq_iff_of_injective Charset.code Charset.code_injective nat_eq_iff a b

/-- the storage bytes the operators read: all three under UTF-8, else the first -/
def Glyph.used (g : Glyph) : List Byte := if Charset.eq g.cs .utf8 then g.ucharacter else [g.character]
/-- all that the hand-written operators and `hash_value` read of a glyph -/
def Glyph.key (g : Glyph) : Charset × List Byte := (g.cs, g.used)
def Glyph.keyOps : Cmp (Charset × List Byte) := Cmp.lex Charset.ops (Cmp.list Cmp.byte)

theorem Glyph.used_utf8 {g : Glyph} (h : g.cs = .utf8) : g.used = [g.b0, g.b1, g.b2] :=
  if_pos ((Charset.eq_iff _ _).2 h)
theorem Glyph.used_single {g : Glyph} (h : g.cs ≠ .utf8) : g.used = [g.b0] :=
  if_neg (mt (Charset.eq_iff _ _).1 h)

theorem Glyph.keyOps_lawful : Glyph.keyOps.Lawful := Charset.ops_lawful.lex byte_lawful.list

theorem Glyph.eq_key (l r : Glyph) : Glyph.eq l r = Glyph.keyOps.eq l.key r.key := by
  dsimp only [Glyph.eq, Glyph.keyOps, Glyph.key, Glyph.used, Cmp.lex, Cmp.list, Cmp.byte]
  by_cases hc : Charset.eq l.cs r.cs = true
  · rw [if_pos hc, hc, ← (Charset.eq_iff _ _).1 hc, Bool.true_and]
    by_cases hu : Charset.eq l.cs .utf8 = true
    · simp [hu, listEq, Glyph.ucharacter, Glyph.equalLoop]; rfl
    · simp only [if_neg hu, listEq, Bool.and_true]
  · rw [if_neg hc, Bool.eq_false_iff.2 hc]; rfl

theorem Glyph.lt_key (l r : Glyph) : Glyph.lt l r = Glyph.keyOps.lt l.key r.key := by
  dsimp only [Glyph.lt, Glyph.keyOps, Glyph.key, Glyph.used, Cmp.lex, Cmp.list, Cmp.byte]
  have heq : Charset.eq l.cs r.cs = _ := Charset.ops_lawful.eq_eq l.cs r.cs
  cases hc : Charset.cmp l.cs r.cs <;> simp only [Charset.lt, heq, hc]
  · rfl
  · -- same set: the two loops run over storage of the same shape
    rw [← (Charset.eq_iff _ _).1 (heq.trans (congrArg _ hc)), Bool.eq_iff_iff]
    by_cases hu : Charset.eq l.cs .utf8 = true
    · -- both sides unfold to a lexicographic condition on the three `toNat`s; `omega` identifies the two
      simp [hu, listCmp, Glyph.ucharacter, Glyph.lessLoop, cmpByte, Ordering.then_eq_lt, cmpNat_eq_lt, cmpNat_eq_eq]; omega
    · simp [hu, listCmp, Glyph.character, cmpByte, cmpNat_eq_lt]
      exact decide_eq_true_iff
  · rfl

theorem Glyph.cmp_key (l r : Glyph) : Glyph.cmp l r = Glyph.keyOps.cmp l.key r.key := by
  rw [Glyph.keyOps_lawful.cmp_of_lt, ← Glyph.lt_key, ← Glyph.lt_key]; rfl

theorem Glyph.ops_lawful : Glyph.ops.Lawful :=
  (Glyph.keyOps_lawful.pullback Glyph.key).congr Glyph.eq_key Glyph.lt_key Glyph.cmp_key

theorem Glyph.eq_iff_key (a b : Glyph) : Glyph.eq a b = true ↔ a.key = b.key := by
  rw [Glyph.eq_key]; exact lex_eq_iff Charset.eq_iff (list_eq_iff byte_eq_iff) _ _

theorem Glyph.eq_cases (a b : Glyph) (h : Glyph.eq a b = true) :
    a = b ∨ (a.cs ≠ .utf8 ∧ a.cs = b.cs ∧ a.b0 = b.b0) := by
  have hk := (Glyph.eq_iff_key a b).1 h
  have hc : a.cs = b.cs := congrArg Prod.fst hk
  have hu : a.used = b.used := congrArg Prod.snd hk
  by_cases h8 : a.cs = .utf8
  · rw [Glyph.used_utf8 h8, Glyph.used_utf8 (hc ▸ h8)] at hu
    obtain ⟨a0, a1, a2, ac⟩ := a
    cases hc; cases hu
    exact .inl rfl
  · rw [Glyph.used_single h8, Glyph.used_single (hc ▸ h8)] at hu
    exact .inr ⟨h8, hc, List.head_eq_of_cons_eq hu⟩

theorem LowColour.ops_lawful : LowColour.ops.Lawful := byte_lawful.pullback LowColour.value
theorem HighColour.ops_lawful : HighColour.ops.Lawful := byte_lawful.pullback HighColour.value
theorem GreyscaleColour.ops_lawful : GreyscaleColour.ops.Lawful := byte_lawful.pullback GreyscaleColour.shade
/- `dsimp only` first: with the combinators unfolded `exact` compares syntactically with the transcribed operators.
   On the folded term the unifier evaluates `Ordering.then` on the model's side before it unfolds `lex`: ten times dearer. -/
theorem TrueColour.ops_lawful : TrueColour.ops.Lawful := by
  have := (byte_lawful.lex (byte_lawful.lex byte_lawful)).pullback fun c : TrueColour => (c.red, c.green, c.blue)
  dsimp only [pullback, lex, byte] at this
  exact this

/-- the variant as a nested sum, in index order -/
def Colour.toSum : Colour → LowColour ⊕ (HighColour ⊕ (GreyscaleColour ⊕ TrueColour))
  | .low v => .inl ⟨v⟩
  | .high v => .inr (.inl ⟨v⟩)
  | .grey v => .inr (.inr (.inl ⟨v⟩))
  | .rgb r g b => .inr (.inr (.inr ⟨r, g, b⟩))

theorem Colour.ops_lawful : Colour.ops.Lawful :=
  ((LowColour.ops_lawful.sum (HighColour.ops_lawful.sum
      (GreyscaleColour.ops_lawful.sum TrueColour.ops_lawful))).pullback Colour.toSum).congr_cmp
    (fun a b => by cases a <;> cases b <;> rfl)
    (fun a b => by cases a <;> cases b <;> rfl)

theorem Attr.ops_lawful : Attr.ops.Lawful := by
  have := (Colour.ops_lawful.lex (Colour.ops_lawful.lex (Intensity.ops_lawful.lex (Underlining.ops_lawful.lex
    (Polarity.ops_lawful.lex Blinking.ops_lawful))))).pullback
    fun a : Attr => (a.fg, a.bg, a.intensity, a.underlining, a.polarity, a.blinking)
  dsimp only [pullback, lex] at this
  exact this

theorem Element.ops_lawful : Element.ops.Lawful := by
  have := (Glyph.ops_lawful.lex Attr.ops_lawful).pullback fun e : Element => (e.glyph, e.attr)
  dsimp only [pullback, lex] at this
  exact this

theorem Element.eq_refl (a : Element) : Element.eq a a = true := Element.ops_lawful.laws.eq_refl a

theorem TString.ops_lawful : TString.ops.Lawful := Element.ops_lawful.list

theorem Point.ops_lawful : Point.ops.Lawful := by
  have := (int_lawful.lex int_lawful).pullback fun p : Point => (p.y, p.x)
  dsimp only [pullback, lex, int] at this
  exact this
theorem Extent.ops_lawful : Extent.ops.Lawful := by
  have := (int_lawful.lex int_lawful).pullback fun e : Extent => (e.width, e.height)
  dsimp only [pullback, lex, int] at this
  exact this
theorem Rectangle.ops_lawful : Rectangle.ops.Lawful := by
  have := (Point.ops_lawful.lex Extent.ops_lawful).pullback fun r : Rectangle => (r.origin, r.size)
  dsimp only [pullback, lex] at this
  exact this

theorem ControlSequence.ops_lawful : ControlSequence.ops.Lawful := by
  have := (byte_lawful.lex (byte_lawful.lex (bool_lawful.lex (byte_lawful.list.list.lex byte_lawful)))).pullback
    fun c : ControlSequence => (c.initiator, c.command, c.«meta», c.arguments, c.extender)
  dsimp only [pullback, lex, list, byte, Cmp.bool] at this
  exact this

def KeySequence.toSum : KeySequence → Byte ⊕ ControlSequence
  | .raw b => .inl b
  | .control c => .inr c

theorem KeySequence.ops_lawful : KeySequence.ops.Lawful :=
  ((byte_lawful.sum ControlSequence.ops_lawful).pullback KeySequence.toSum).congr_cmp
    (fun a b => by cases a <;> cases b <;> rfl)
    (fun a b => by cases a <;> cases b <;> rfl)

theorem VirtualKey.ops_lawful : VirtualKey.ops.Lawful := by
  have := (byte_lawful.lex (byte_lawful.lex (int_lawful.lex KeySequence.ops_lawful))).pullback
    fun k : VirtualKey => (k.key, k.modifiers, k.repeatCount, k.sequence)
  dsimp only [pullback, lex, byte, int] at this
  exact this

theorem MouseEvent.ops_lawful : MouseEvent.ops.Lawful := by
  have := (nat_lawful.lex Point.ops_lawful).pullback fun e : MouseEvent => (e.action, e.position)
  dsimp only [pullback, lex, nat] at this
  exact this

/- `==` is equality, except on glyphs.  The four colour kinds need no lemma of their own: `Colour.eq` on one
   alternative is that kind's `==`. -/
theorem Colour.eq_imp (a b : Colour) (h : Colour.eq a b = true) : a = b := by
  cases a <;> cases b <;> simp_all [Colour.eq, LowColour.eq, HighColour.eq, GreyscaleColour.eq, TrueColour.eq]
theorem Intensity.eq_imp (a b : Intensity) : Intensity.eq a b = true → a = b := by
  cases a <;> cases b <;> decide
theorem Underlining.eq_imp (a b : Underlining) : Underlining.eq a b = true → a = b := by
  cases a <;> cases b <;> decide
theorem Polarity.eq_imp (a b : Polarity) : Polarity.eq a b = true → a = b := by
  cases a <;> cases b <;> decide
theorem Blinking.eq_imp (a b : Blinking) : Blinking.eq a b = true → a = b := by
  cases a <;> cases b <;> decide

theorem Attr.eq_imp (a b : Attr) (h : Attr.eq a b = true) : a = b := by
  simp only [Attr.eq, Bool.and_eq_true] at h
  obtain ⟨h1, h2, h3, h4, h5, h6⟩ := h
  cases a; cases b
  simp only [Attr.mk.injEq]
  exact ⟨Colour.eq_imp _ _ h1, Colour.eq_imp _ _ h2, Intensity.eq_imp _ _ h3, Underlining.eq_imp _ _ h4,
    Polarity.eq_imp _ _ h5, Blinking.eq_imp _ _ h6⟩

theorem Glyph.hashTree_key (g : Glyph) :
    g.hashTree = .node (Charset.hashTree g.key.1 :: g.key.2.map .byte) := by
  unfold Glyph.hashTree Glyph.key Glyph.used; split <;> rfl

theorem Glyph.hash_of_eq (a b : Glyph) (h : Glyph.eq a b = true) : a.hashTree = b.hashTree := by
  rw [Glyph.hashTree_key, Glyph.hashTree_key, (Glyph.eq_iff_key a b).1 h]

theorem Element.hash_of_eq (a b : Element) (h : Element.eq a b = true) : a.hashTree = b.hashTree := by
  simp only [Element.eq, Bool.and_eq_true] at h
  simp only [Element.hashTree, Glyph.hash_of_eq _ _ h.1, Attr.eq_imp _ _ h.2]

theorem listEq_map {α β : Type} {e : α → α → Bool} {f : α → β} (h : ∀ x y, e x y = true → f x = f y) :
    ∀ a b, listEq e a b = true → a.map f = b.map f
  | [], [], _ => rfl
  | x :: xs, y :: ys, hab => by
    rw [listEq, Bool.and_eq_true] at hab
    rw [List.map, List.map, h x y hab.1, listEq_map h xs ys hab.2]

theorem TString.hash_of_eq (a b : TString) (h : TString.eq a b = true) : a.hashTree = b.hashTree :=
  congrArg HashTree.node (listEq_map Element.hash_of_eq a b h)

end Tpp
