import Tpp.Model.Encoder
/-! Byte-range facts about glyph storage and `last_utf8_index` that the encoder, the orders (C15) and the strings (C17) share;
nothing here mentions the reference terminal. -/
namespace Tpp

theorem not_lt_0x80_of_le {a b : Byte} (ha : 0x80 ≤ a) (h : a ≤ b) : ¬ b < 0x80 := UInt8.not_lt.2 (UInt8.le_trans ha h)
theorem ne_zero_of_le {b : Byte} (h : 0x80 ≤ b) : b ≠ 0 := fun e => absurd (e ▸ h) (by decide)

/-- `last_utf8_index` by ranges (`0` is below `0x80` too) -/
theorem Glyph.utf8Index_eq (g : Glyph) : g.utf8Index =
    if g.b0 < 0x80 then 0 else if g.b1 < 0x80 then 1 else if g.b2 < 0x80 then 2 else 3 := by
  have step (b : Byte) (k n : Nat) :
      (if b = 0 then k else if b &&& 0x80 = 0 then k else n) = if b < 0x80 then k else n := by
    simp only [byte_and_0x80]
    split
    · next h => rw [if_pos (h ▸ by decide)]
    · rfl
  simp only [Glyph.utf8Index, step]

end Tpp
