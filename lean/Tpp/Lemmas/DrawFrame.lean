import Tpp.Lemmas.DrawLoop
import Tpp.Lemmas.Canvas
import Tpp.Lemmas.RendOnly
import Tpp.Lemmas.OrderInst
/-! One whole `screen::draw` against a terminal of the canvas's size. -/
namespace Tpp
open Tpp.Lemmas.Canvas

/-- every cell of the canvas is in the properties' domain -/
def Canvas.cellsWF (c : Canvas) : Prop :=
  ∀ x y : Int, 0 ≤ x → x < c.size.width → 0 ≤ y → y < c.size.height → (c.get x y).wf = true

def fullRegion (c : Canvas) : List (Int × Int) := regionCoords ⟨⟨0, 0⟩, c.size⟩

theorem new_get_default (e : Extent) (x y : Int) : (Canvas.new e).get x y = {} :=
  getD_replicate_self _ _ _

theorem cellOf_default : cellOf {} = Cell.blank := by decide

/-- every cell of the visible buffer, as far as the terminal's size goes, shows the canvas's element -/
def Shows (vt : VT) (c : Canvas) : Prop :=
  ∀ x y : Nat, x < vt.w → y < vt.h → vt.cell x y = cellOf (c.get x y)

/-- the library side of one draw: final belief and the bytes written -/
def drawRun (beh : Behaviour) (scr : ScreenState) (c : Canvas) (s : TermState) : TermState × List Byte :=
  run beh s (Screen.draw scr c).2

/-- library equality of elements implies they look the same on a terminal -/
theorem cellOf_of_eq (a b : Element) (h : Element.eq a b = true) : cellOf a = cellOf b := by
  simp only [Element.eq, Bool.and_eq_true] at h
  have ha := Attr.eq_imp _ _ h.2
  rcases Glyph.eq_cases _ _ h.1 with hg | ⟨h8, hc, h0⟩
  · simp only [cellOf, hg, ha]
  · simp only [cellOf, Glyph.text, if_neg (hc ▸ h8), h0, hc, ha]

/-- for ANY `base` the terminal shows; `draw_run` supplies blanks after the erase, or the last frame -/
theorem draw_region (beh : Behaviour) (base c : Canvas) (st : TermState × VT) (hA : Agree st.1 st.2)
    (hsize : c.size = st.1.size) (hwf : c.cellsWF) :
    let st' := Sys.run beh st (((fullRegion c).flatMap (Screen.cellOps base c)).map Ev.op)
    Agree st'.1 st'.2 ∧ st'.1.size = st.1.size ∧
    st'.2.log = st.2.log ++ ((fullRegion c).filter (changedCell base c)).map (drawnEntry c) ∧
    (Shows st.2 base →
      (st.2.wrap ≠ .immediate ∨ changedCell base c (c.size.width - 1, c.size.height - 1) = false) → Shows st'.2 c) := by
  have hin := fun p (hp : p ∈ fullRegion c) => mem_regionCoords_zero.mp hp
  have hd := draw_changed beh base c (fullRegion c) st hA (fun p hp => hsize ▸ hin p hp)
    fun p hp => hwf p.1 p.2 (hin p hp).1 (hin p hp).2.1 (hin p hp).2.2.1 (hin p hp).2.2.2
  refine ⟨hd.agree, hd.size, hd.log, fun hbase hns x y hx hy => ?_⟩
  rw [(hd.wh hA).1] at hx
  rw [(hd.wh hA).2] at hy
  -- an unchanged bottom-right cell is not among the cells written
  have hlast : st.2.wrap ≠ .immediate ∨
      (st.1.size.width - 1, st.1.size.height - 1) ∉ (fullRegion c).filter (changedCell base c) :=
    hns.imp id fun h hm => Bool.false_ne_true (h.symm.trans (hsize ▸ (List.mem_filter.mp hm).2))
  rw [VT.cell, hd.alt, hd.cells hlast,
    replay_drawn c _ _ fun p hp => ⟨(hin p (List.mem_filter.mp hp).1).1, (hin p (List.mem_filter.mp hp).1).2.2.1⟩]
  split
  · rfl
  · -- not transmitted: the library found the cell equal to the one the terminal shows
    rename_i hne
    have hxy : ((x : Int), (y : Int)) ∈ fullRegion c := mem_regionCoords_zero.mpr
      ⟨Int.natCast_nonneg x, hsize ▸ hA.2.width ▸ Int.ofNat_lt.mpr hx,
        Int.natCast_nonneg y, hsize ▸ hA.2.height ▸ Int.ofNat_lt.mpr hy⟩
    have hnc : changedCell base c (x, y) = false := Bool.eq_false_iff.mpr fun hcc =>
      hne ⟨rfl, (x, y), List.mem_filter.mpr ⟨hxy, hcc⟩, Int.toNat_natCast x, Int.toNat_natCast y⟩
    exact (hbase x y hx hy).trans (cellOf_of_eq (base.get x y) (c.get x y) (changedCell_eq_false.mp hnc))

/-- one whole draw: the optional erase, then the loop.  What is transmitted needs no hypothesis on what the terminal
    shows (`C04_wire_exact`); what it shows afterwards does -/
theorem draw_run (beh : Behaviour) (scr : ScreenState) (c : Canvas) (s : TermState) (vt : VT)
    (hA : Agree s vt) (hsize : c.size = s.size) (hwf : c.cellsWF) :
    Agree (drawRun beh scr c s).1 (vt.feedAll (drawRun beh scr c s).2) ∧ (drawRun beh scr c s).1.size = s.size ∧
    (vt.feedAll (drawRun beh scr c s).2).log
      = vt.log ++ ((fullRegion c).filter (changedCell (Screen.base scr c) c)).map (drawnEntry c) ∧
    ((c.size = scr.last.size → Shows vt scr.last) →
      (vt.wrap ≠ .immediate ∨ changedCell (Screen.base scr c) c (c.size.width - 1, c.size.height - 1) = false) →
      Shows (vt.feedAll (drawRun beh scr c s).2) c) := by
  -- after the optional erase the terminal shows the frame the draw is diffed against
  have hpre : let st1 := Sys.run beh (s, vt) ((if c.size ≠ scr.last.size then [Op.erase .display] else []).map Ev.op)
      Agree st1.1 st1.2 ∧ st1.1.size = s.size ∧ st1.2.log = vt.log ∧ st1.2.wrap = vt.wrap ∧
        ((c.size = scr.last.size → Shows vt scr.last) → Shows st1.2 (Screen.base scr c)) := by
    unfold Screen.base
    split
    · -- size changed: erase the display, diff against blanks
      refine ⟨agree_step beh s vt hA (.op (.erase .display)) trivial, rfl, ?_, ?_, fun _ x y _ _ => ?_⟩
      all_goals rw [show (Sys.run beh (s, vt) ([Op.erase .display].map Ev.op)).2 = _ from feed_eraseOp beh s vt hA.1 .display]
      · rfl
      · rfl
      · rw [new_get_default, cellOf_default, ← VT.erasedCell_reset vt]
        exact VT.eraseWhere_cell _ _ x y
    · -- same size: diff against the last frame, which the terminal shows
      exact ⟨hA, rfl, rfl, rfl, fun hbase => hbase (Decidable.of_not_not ‹_›)⟩
  obtain ⟨p1, p2, p3, p4, p5⟩ := hpre
  obtain ⟨d1, d2, d3, d4⟩ := draw_region beh (Screen.base scr c) c _ p1 (hsize.trans p2.symm) hwf
  replace d4 := fun hbase h => d4 (p5 hbase) (p4 ▸ h)
  rw [← Sys.run_append, ← List.map_append, sys_run_ops] at d1 d2 d3 d4
  exact ⟨d1, d2.trans p2, d3.trans (by rw [p3]), d4⟩

/-- `draw_run` with the grid hypothesis in front, the form C03's induction takes -/
theorem draw_frame (beh : Behaviour) (scr : ScreenState) (c : Canvas) (s : TermState) (vt : VT)
    (hA : Agree s vt) (hsize : c.size = s.size) (hwf : c.cellsWF)
    (hbase : c.size = scr.last.size → Shows vt scr.last) :
    Agree (drawRun beh scr c s).1 (vt.feedAll (drawRun beh scr c s).2) ∧ (drawRun beh scr c s).1.size = s.size ∧
    (vt.feedAll (drawRun beh scr c s).2).log
      = vt.log ++ ((fullRegion c).filter (changedCell (Screen.base scr c) c)).map (drawnEntry c) ∧
    ((vt.wrap ≠ .immediate ∨ changedCell (Screen.base scr c) c (c.size.width - 1, c.size.height - 1) = false) →
      Shows (vt.feedAll (drawRun beh scr c s).2) c) :=
  have ⟨h1, h2, h3, h4⟩ := draw_run beh scr c s vt hA hsize hwf
  ⟨h1, h2, h3, h4 hbase⟩

theorem drawOps_eq (scr : ScreenState) (c : Canvas) :
    (Screen.draw scr c).2 =
      (if c.size ≠ scr.last.size then [Op.erase .display] else []) ++
      ((fullRegion c).filter (changedCell (Screen.base scr c) c)).flatMap
        (fun p => [Op.moveCursor ⟨p.1, p.2⟩, Op.writeElement (c.get p.1 p.2)]) := by
  rw [Screen.draw, Screen.drawOps, flatMap_cellOps]
  rfl

theorem drawOps_same (scr : ScreenState) (c : Canvas) : (Screen.draw (Screen.draw scr c).1 c).2 = [] := by
  have hb : Screen.base (Screen.draw scr c).1 c = c := if_neg (fun h => h rfl)
  rw [drawOps_eq, hb, if_neg (fun h => h rfl), List.filter_eq_nil_iff.mpr fun p _ h =>
    Bool.false_ne_true ((changedCell_eq_false.mpr (Element.eq_refl _)).symm.trans h)]
  rfl

theorem mem_drawOps {scr : ScreenState} {c : Canvas} (hwf : c.cellsWF) {op : Op} (h : op ∈ (Screen.draw scr c).2) :
    op = .erase .display ∨ (∃ p : Point, 0 ≤ p.x ∧ 0 ≤ p.y ∧ op = .moveCursor p) ∨
      ∃ e : Element, e.wf = true ∧ op = .writeElement e := by
  rw [drawOps_eq] at h
  rcases List.mem_append.mp h with h | h
  · split at h
    · exact .inl (List.mem_singleton.mp h)
    · cases h
  · obtain ⟨p, hp, hmem⟩ := List.mem_flatMap.mp h
    have hin := mem_regionCoords_zero.mp (List.mem_filter.mp hp).1
    rcases List.mem_cons.mp hmem with rfl | hmem
    · exact .inr (.inl ⟨_, hin.1, hin.2.2.1, rfl⟩)
    · exact .inr (.inr ⟨_, hwf p.1 p.2 hin.1 hin.2.1 hin.2.2.1 hin.2.2.2, List.mem_singleton.mp hmem⟩)

theorem drawOps_wfr0 {scr : ScreenState} {c : Canvas} (hwf : c.cellsWF) : ∀ op ∈ (Screen.draw scr c).2, op.WFR0 := by
  intro op hop
  rcases mem_drawOps hwf hop with rfl | ⟨p, h1, h2, rfl⟩ | ⟨e, he, rfl⟩
  · trivial
  · exact ⟨h1, h2⟩
  · exact he

end Tpp
