namespace Tpp

abbrev Byte := UInt8

-- what makes a sweep over all bytes decidable.  Trap: it also fires on `∀ b ∈ l, …`, where `decide` then runs out of
-- recursion depth (see `Props/C07.lean`)
instance {p : UInt8 → Prop} [DecidablePred p] : Decidable (∀ b, p b) :=
  decidable_of_iff (∀ i : Fin 256, p (UInt8.ofFin i))
    ⟨fun h b => by simpa using h b.toFin, fun h i => h _⟩

/-- the byte-level test of `write_utf8_glyph`: the high bit is clear exactly below `0x80` -/
theorem byte_and_0x80 : ∀ b : Byte, b &&& 0x80 = 0 ↔ b < 0x80 := by decide +kernel

def isDigit (b : Byte) : Bool := 48 ≤ b && b ≤ 57
def digitByte (d : Nat) : Byte := UInt8.ofNat (48 + d)
def digitVal (b : Byte) : Nat := b.toNat - 48

def decDigits (n : Nat) : List Byte :=
  if n < 10 then [digitByte n] else decDigits (n / 10) ++ [digitByte (n % 10)]
decreasing_by omega

def parseDec : List Byte → Nat → Nat
  | [], acc => acc
  | b :: bs, acc => parseDec bs (acc * 10 + digitVal b)

theorem parseDec_append (acc : Nat) (xs ys : List Byte) :
    parseDec (xs ++ ys) acc = parseDec ys (parseDec xs acc) := by
  induction xs generalizing acc with
  | nil => rfl
  | cons x xs ih => simp [parseDec, ih]

theorem digitVal_digitByte (d : Nat) (h : d < 10) : digitVal (digitByte d) = d := by
  simp [digitByte, digitVal]; omega

theorem isDigit_digitByte (d : Nat) (h : d < 10) : isDigit (digitByte d) = true := by
  have : ∀ d : Fin 10, isDigit (digitByte d.val) = true := by decide +kernel
  exact this ⟨d, h⟩

theorem parseDec_decDigits (n : Nat) : ∀ acc, parseDec (decDigits n) acc = acc * 10 ^ (decDigits n).length + n := by
  induction n using Nat.strongRecOn with
  | _ n ih =>
    intro acc
    rw [decDigits]
    split
    · rename_i h
      simp [parseDec, digitVal_digitByte n h]
    · rename_i h
      rw [parseDec_append, ih _ (by omega)]
      simp [parseDec, digitVal_digitByte (n % 10) (by omega), Nat.pow_succ]
      rw [Nat.add_mul, Nat.mul_assoc]
      omega

theorem parseDec_zero_decDigits (n : Nat) : parseDec (decDigits n) 0 = n := by
  simpa using parseDec_decDigits n 0

theorem decDigits_ne_nil (n : Nat) : decDigits n ≠ [] := by
  rw [decDigits]; split <;> simp

theorem decDigits_all_digits (n : Nat) : ∀ b ∈ decDigits n, isDigit b = true := by
  induction n using Nat.strongRecOn with
  | _ n ih =>
    rw [decDigits]; split
    · rename_i h; intro b hb; simp at hb; subst hb; exact isDigit_digitByte n h
    · rename_i h; intro b hb
      simp at hb
      rcases hb with hb | hb
      · exact ih (n/10) (by omega) b hb
      · subst hb; exact isDigit_digitByte _ (by omega)

end Tpp
