import Tpp.Props.C01
import Tpp.Props.C02
import Tpp.Props.C03
import Tpp.Props.C04
import Tpp.Props.C07Markup
import Tpp.Props.C08
import Tpp.Props.C09
import Tpp.Props.C10
import Tpp.Props.C11
import Tpp.Props.C12
import Tpp.Props.C13
import Tpp.Props.C14
import Tpp.Props.C15
import Tpp.Props.C16
import Tpp.Props.C17
import Tpp.Props.C18
import Tpp.Props.C19
import Tpp.Props.E2E
import Tpp.Driver.Oracle
import Tpp.Props.C05
import Tpp.Props.C06
import Tpp.Props.C07
import Tpp.Props.C20
import Tpp.Lemmas.TablesTie
import Tpp.Lemmas.ParserFast
